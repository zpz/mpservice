import MpsVerif.Model.Pipeline
/-!
# Generator bodies run to exhaustion = sequential meaning, operator by operator

`fold op st vals err` is the `for`-loop of the generator, from state `st`.  It is determined by its
three defining equations (`fold_eq`); for every operator the list-level meaning, generalised over
the state where the operator has one, satisfies them.
-/
namespace Pipeline

@[simp] theorem Strm.prepend_nil (s : Strm) : s.prepend [] = s := rfl
@[simp] theorem Strm.prepend_single (v : Val) (s : Strm) : s.prepend [v] = s.cons v := rfl
theorem Strm.prepend_append (a b : List Val) (s : Strm) : s.prepend (a ++ b) = (s.prepend b).prepend a := by
  simp [Strm.prepend]
theorem Strm.prepend_cons (v : Val) (a : List Val) (s : Strm) : s.prepend (v :: a) = (s.prepend a).cons v := rfl

theorem fold_eq (op : Op) (S : OpSt → List Val → Option Err → Strm)
    (hnil : ∀ st, S st [] Option.none = ⟨flush op st, Option.none⟩)
    (hfail : ∀ st x, S st [] (some x) = .fail x)
    (hcons : ∀ st v r e, S st (v :: r) e =
      match feed op st v with
      | (outs, .cont st') => (S st' r e).prepend outs
      | (outs, .stop) => ⟨outs, Option.none⟩
      | (outs, .raise x) => ⟨outs, some x⟩)
    (st : OpSt) (l : List Val) (e : Option Err) : fold op st l e = S st l e := by
  induction l generalizing st with
  | nil =>
    cases e with
    | none => exact (hnil st).symm
    | some x => exact (hfail st x).symm
  | cons v r ih =>
    rw [fold, hcons]
    rcases feed op st v with ⟨outs, nx⟩
    cases nx with
    | cont st' => exact congrArg (Strm.prepend outs) (ih st')
    | stop => rfl
    | raise x => rfl

/-- `m` is the number of elements `Header` will still yield -/
theorem fold_head (n m : Nat) (st : OpSt) (hm : st.cnt + m = n) (l : List Val) (e : Option Err) :
    fold (.head n) st l e = if m < l.length then ⟨l.take m, Option.none⟩ else ⟨l, e⟩ := by
  induction l generalizing st m with
  | nil => cases e <;> rfl
  | cons v r ih =>
    rw [fold, feed]
    cases m with
    | zero =>
      rw [if_pos (show st.cnt ≥ n from Nat.le_of_eq hm.symm)]
      rfl
    | succ m =>
      rw [if_neg (show ¬st.cnt ≥ n by omega)]
      dsimp only
      rw [ih m _ (Nat.add_right_comm .. ▸ hm)]
      simp only [List.length_cons, Nat.add_lt_add_iff_right]
      split <;> rfl

theorem keepLast_keepLast_append (n : Nat) (a r : List Val) :
    keepLast n (keepLast n a ++ r) = keepLast n (a ++ r) := by
  unfold keepLast
  cases Nat.le_total a.length n with
  | inl h => rw [Nat.sub_eq_zero_of_le h, List.drop_zero]
  | inr h =>
    rw [← List.drop_append_of_le_length (Nat.sub_le ..), List.drop_drop, List.length_drop,
      List.length_append, Nat.sub_sub, Nat.sub_add_cancel h, Nat.add_sub_cancel_left,
      Nat.sub_add_comm h]

theorem fold_init (op : Op) (s : Strm) : fold op (initSt op) s.vals s.err = sem op s := by
  cases op with
  | map f =>
    refine fold_eq _ (fun _ => semMap f) (fun _ => rfl) (fun _ _ => rfl) (fun st v r e => ?_) ..
    rw [semMap, feed]
    cases f v <;> rfl
  | filter p =>
    refine fold_eq _ (fun _ => semFilter p) (fun _ => rfl) (fun _ _ => rfl) (fun st v r e => ?_) ..
    rw [semFilter, feed]
    cases p v with
    | ok b =>
      dsimp only
      cases b.truthy <;> rfl
    | raise x => rfl
  | filterExc d k =>
    refine fold_eq _ (fun _ => semFilterExc d k) (fun _ => rfl) (fun _ _ => rfl) (fun st v r e => ?_) ..
    rw [semFilterExc, feed]
    cases excVerdict d k v <;> rfl
  | peek | buffer n =>
    exact fold_eq _ (fun _ l e => ⟨l, e⟩) (fun _ => rfl) (fun _ _ => rfl) (fun _ _ _ _ => rfl) ..
  | unbatch =>
    refine fold_eq _ (fun _ => semUnbatch) (fun _ => rfl) (fun _ _ => rfl) (fun st v r e => ?_) ..
    rw [semUnbatch, feed]
    cases v.elems <;> rfl
  | parmap f c rx re =>
    refine fold_eq _ (fun _ => semParmap f rx re) (fun _ => rfl) (fun _ _ => rfl) (fun st v r e => ?_) ..
    rw [semParmap, feed]
    cases f v with
    | ok y => rfl
    | raise x => cases re <;> rfl
  | accumulate g i =>
    refine fold_eq _ (fun st => semAcc g st.acc) (fun _ => rfl) (fun _ _ => rfl) (fun st v r e => ?_) ..
    rw [feed]
    cases st.acc with
    | none => rfl
    | some z =>
      rw [semAcc]
      dsimp only
      cases g z v <;> rfl
  | head n => exact fold_head n n _ (Nat.zero_add n) ..
  | tail n =>
    -- `Tailer` yields nothing until the source has ended; then the last `n` of what it has seen
    have h := fold_eq (.tail n)
      (fun st l e => match e, l with
        | some x, _ => .fail x
        | Option.none, [] => ⟨st.buf, Option.none⟩
        | Option.none, _ :: _ => ⟨keepLast n (st.buf ++ l), Option.none⟩)
      (fun _ => rfl) (fun _ _ => rfl) (fun st v r e => ?_) (initSt (.tail n)) s.vals s.err
    · rw [h, sem]
      cases s.err with
      | some x => rfl
      | none =>
        cases s.vals with
        | nil => exact congrArg (Strm.mk · Option.none) List.drop_nil.symm
        | cons v r => rfl
    · rw [feed]
      cases e with
      | some x => rfl
      | none =>
        cases r with
        | nil => rfl
        | cons w r' =>
          dsimp only [Strm.prepend_nil]
          rw [keepLast_keepLast_append, List.append_assoc]
          rfl
  | batch n =>
    refine fold_eq _ (fun st => semBatch n st.buf) (fun _ => rfl) (fun _ _ => rfl) (fun st v r e => ?_) ..
    rw [semBatch, feed]
    split <;> rfl
  | groupby key =>
    refine fold_eq _ (fun st => semGroup key (st.acc.map (·, st.buf))) (fun st => ?_) (fun st _ => ?_)
      (fun st v r e => ?_) ..
    · obtain ⟨_, _, acc, _⟩ := st
      cases acc <;> rfl
    · obtain ⟨_, _, acc, _⟩ := st
      cases acc <;> rfl
    · rw [semGroup, feed]
      cases key v with
      | raise x => rfl
      | ok k =>
        cases st.acc with
        | none => rfl
        | some k0 =>
          dsimp only [Option.map_some]
          split <;> rfl
  | shuffle n idx perm =>
    refine fold_eq _ (fun st => semShuffle n perm st.buf st.rnd) (fun _ => rfl) (fun _ _ => rfl)
      (fun st v r e => ?_) ..
    rw [semShuffle, feed]
    split <;> rfl

end Pipeline
