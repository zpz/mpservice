import MpsVerif.Proofs.BatchPhase
import MpsVerif.Proofs.BatchOut
/-!
Liveness of the batching-worker model: a measure that every worker action and every useful clock
tick strictly decreases, and progress while a request is pending and the end marker has not been
issued.

The measure weighs every element where it is, less the further it has come: on `q_in`, held by a
collector, in a buffer, in a batch under assembly (3 per element, plus the clock ticks left until
the deadline), released, inside `call`, returned.  Each station outweighs the next by more than
the bookkeeping steps the move sets off (`cMore` / `cNoMore` / `cDecide` / `cLock`, `gRelease`).
The thread that meets the end marker puts it back on `q_in` and ends: a live collector or consumer
therefore weighs at least an entry of `q_in` (`qwt`), an ended one nothing.
-/
namespace Batch

def qwt (c : Cfg) : Nat := c.wait + 16

def qw (c : Cfg) : List Item → Nat
  | [] => 0
  | _ :: t => qw c t + qwt c

def bw (c : Cfg) : List Item → Nat
  | [] => 0
  | .req _ :: t => bw c t + (c.wait + 9)
  | .stop :: t => bw c t + 1

def hwt (c : Cfg) : Item → Nat
  | .req _ => c.wait + 10
  | .stop => 0

def cw (c : Cfg) : CPh → Nat
  | .top => 2 + (qwt c + 1)
  | .locked => 1 + (qwt c + 1)
  | .have z => 5 + hwt c z + (qwt c + 1)
  | .after => 4 + (qwt c + 1)
  | .decide => 3 + (qwt c + 1)
  | .done => 0

def gw (c : Cfg) (clock : Nat) : GPh → Nat
  | .idle => qwt c
  | .coll b t0 => qwt c + 5 + (t0 + c.wait - clock) + 3 * b.length
  | .ready b _ => qwt c + 4 + 3 * b.length
  | .fin => 0

def pw : PSt → Nat
  | .queued => 3
  | .running _ => 2
  | .done _ _ => 1

def pdw : List PEnt → Nat
  | [] => 0
  | e :: t => pdw t + pw e.st

def muW (c : Cfg) (clock : Nat) (w : W) : Nat := cw c w.cph + bw c w.buf + gw c clock w.gph + pdw w.pd

def muSum (c : Cfg) (clock : Nat) (ws : Nat → W) : Nat := wsum c.k (fun j => muW c clock (ws j))

def mu (c : Cfg) (s : State) : Nat := qw c s.qin + muSum c s.clock s.ws

@[simp] theorem qw_nil (c : Cfg) : qw c [] = 0 := rfl
@[simp] theorem qw_cons (c : Cfg) (z : Item) (t : List Item) : qw c (z :: t) = qw c t + qwt c := rfl
@[simp] theorem qw_append (c : Cfg) (a b : List Item) : qw c (a ++ b) = qw c a + qw c b := by
  induction a with
  | nil => simp
  | cons z t ih => simp +arith [ih]
@[simp] theorem bw_nil (c : Cfg) : bw c [] = 0 := rfl
@[simp] theorem bw_req (c : Cfg) (r : Req) (t : List Item) : bw c (.req r :: t) = bw c t + (c.wait + 9) := rfl
@[simp] theorem bw_stop (c : Cfg) (t : List Item) : bw c (.stop :: t) = bw c t + 1 := rfl
@[simp] theorem bw_append (c : Cfg) (a b : List Item) : bw c (a ++ b) = bw c a + bw c b := by
  induction a with
  | nil => simp
  | cons z t ih => cases z <;> simp +arith [ih]
@[simp] theorem pdw_nil : pdw [] = 0 := rfl
@[simp] theorem pdw_cons (e : PEnt) (t : List PEnt) : pdw (e :: t) = pdw t + pw e.st := rfl
@[simp] theorem pdw_append (a b : List PEnt) : pdw (a ++ b) = pdw a + pdw b := by
  induction a with
  | nil => simp
  | cons z t ih => simp +arith [ih]

def isColl : GPh → Bool
  | .coll _ _ => true
  | _ => false

theorem isColl_iff {g : GPh} : isColl g = true ↔ ∃ b t0, g = .coll b t0 := by
  cases g <;> simp [isColl]

/-- the actions that count for liveness: every worker action, and a clock tick while some
    consumer is waiting for its deadline (arrivals / the end marker are the environment's; a tick
    with no consumer waiting changes nothing but the clock) -/
def usefulB (c : Cfg) (s : State) : Act → Bool
  | .arrive _ => false
  | .stop => false
  | .tick => (List.range c.k).any (fun i => isColl (s.ws i).gph)
  | _ => true

theorem mu_worker {c : Cfg} {s : State} {i : Nat} {w : W} {q : List Item} {l : Option Nat} {o : List Out}
    {cs : List Call} (hi : i < c.k) (hd : qw c q + muW c s.clock w < qw c s.qin + muW c s.clock (s.ws i)) :
    mu c { setW s i w with qin := q, lock := l, out := o, calls := cs } < mu c s := by
  have := wsum_setW (muW c s.clock) hi s w
  simp only [mu, muSum, setW_clock]
  omega

theorem mu_decreases {c : Cfg} {s : State} {a : Act} {s' : State} (hs : Step c s a s')
    (hu : usefulB c s a = true) : mu c s' < mu c s := by
  cases hs with
  | arrive | stop => cases hu
  | tick ht =>
    obtain ⟨i, hi, hg⟩ := List.any_eq_true.mp hu
    rw [List.mem_range] at hi
    obtain ⟨b, t0, hg⟩ := isColl_iff.mp hg
    have hle : ∀ j, j < c.k → muW c (s.clock + 1) (s.ws j) ≤ muW c s.clock (s.ws j) := by
      intro j _
      simp only [muW]
      cases (s.ws j).gph <;> simp only [gw] <;> omega
    have hlt : muW c (s.clock + 1) (s.ws i) < muW c s.clock (s.ws i) := by
      have hto := ht i hi
      simp only [tickOk, hg, Bool.and_eq_true, decide_eq_true_eq] at hto
      simp only [muW, hg, gw]
      omega
    exact Nat.add_lt_add_left ((wsum_mono hle).2 i hi hlt) _
  | sGetShort _ _ _ _ hq =>
    simp only [mu, hq, qw_cons, qwt]
    omega
  | @cGet i z rest hi hp hq | @cMore i z rest hi hp _ hq =>
    refine mu_worker hi ?_
    cases z <;> simp only [muW, cw, hwt, qwt, hp, hq, qw_cons] <;> omega
  | callEnter hi he hst | callRet _ hi he hst =>
    obtain ⟨a, b, hl, hset⟩ := set_split he
    refine mu_worker hi ?_
    simp only [muW, setW_qin, hl, hset, pdw_append, pdw_cons, pw, hst]
    omega
  | _ =>
    refine mu_worker ‹_› ?_
    simp +arith only [muW, setW_qin, cw, gw, hwt, pw, qwt, qw_append, qw_cons, qw_nil, bw_append, bw_req, bw_stop, bw_nil,
      pdw_append, pdw_cons, pdw_nil, List.length_append, List.length_cons, List.length_nil, Nat.add_sub_cancel, *]

def Quiet (c : Cfg) (s : State) : Prop := reqsOf s.qin = [] ∧ ∀ i, i < c.k → inflight (s.ws i) = []

def Pending (c : Cfg) (s : State) (r : Req) : Prop :=
  r ∈ reqsOf s.qin ∨ ∃ i, i < c.k ∧ r ∈ inflight (s.ws i)

def CanMove (c : Cfg) (s : State) : Prop := ∃ a, usefulB c s a = true ∧ (step c s a).isSome = true

section
variable {c : Cfg} {s : State} {i : Nat}

theorem move_pd (hi : i < c.k) (h : (s.ws i).pd ≠ []) : CanMove c s := by
  match hpd : (s.ws i).pd, h with
  | e :: rest, _ =>
    cases hst : e.st with
    | queued => exact ⟨.callEnter i 0, rfl, by simp [step, hi, hpd, hst]⟩
    | running cid => exact ⟨.callRet i 0 true, rfl, by simp [step, hi, hpd, hst]⟩
    | done cid ok => exact ⟨.emit i, rfl, by simp [step, hi, hpd, hst]⟩

theorem move_have (hph : PhInv c s) (hi : i < c.k) {z : Item} (h : (s.ws i).cph = .have z) : CanMove c s := by
  refine ⟨.cPut i, rfl, ?_⟩
  cases z with
  | stop => simp [step, hi, h]
  | req r =>
    have hroom := hph.room i (h ▸ rfl)
    by_cases hk : r.kind = .good <;> simp [step, hi, h, hk, hroom]

theorem move_after (hi : i < c.k) (h : (s.ws i).cph = .after) : CanMove c s := by
  by_cases hm : s.qin = [] ∨ c.b ≤ (s.ws i).buf.length
  · exact ⟨.cNoMore i, rfl, by simp [step, hi, h, hm]⟩
  · refine ⟨.cMore i, rfl, ?_⟩
    match hq : s.qin with
    | [] => exact absurd (.inl hq) hm
    | z :: rest => simp [step, hi, h, hq, Nat.lt_of_not_le fun hl => hm (.inr hl)]

theorem move_decide (hi : i < c.k) (h : (s.ws i).cph = .decide) : CanMove c s := by
  refine ⟨.cDecide i, rfl, ?_⟩
  simp only [step, hi, h, and_self, if_true]
  split
  · rfl
  · split <;> rfl

theorem move_ready (hi : i < c.k) {b : List Req} {t0 : Nat} (h : (s.ws i).gph = .ready b t0) : CanMove c s :=
  ⟨.gRelease i, rfl, by simp [step, hi, h]⟩

theorem not_tickOk {c : Cfg} {clock : Nat} {w : W} (h : tickOk c clock w = false) :
    (∃ b t0, w.gph = .ready b t0) ∨ (∃ b t0, w.gph = .coll b t0 ∧ t0 + c.wait ≤ clock) ∨ w.pd ≠ [] := by
  by_cases hpd : w.pd = []
  · simp only [tickOk, hpd, List.all_nil, Bool.or_true, Bool.and_true] at h
    cases hg : w.gph with
    | ready b t0 => exact .inl ⟨b, t0, rfl⟩
    | coll b t0 =>
      rw [hg] at h
      exact .inr (.inl ⟨b, t0, rfl, by simpa using h⟩)
    | idle | fin =>
      rw [hg] at h
      cases h
  · exact .inr (.inr hpd)

/-- a consumer that is assembling a batch takes the next element, gives up at the deadline, or lets
    the clock advance; if the clock cannot, the worker that holds it back can move -/
theorem move_coll (hsh : ShapeInv c s) (hi : i < c.k) {b : List Req} {t0 : Nat} (h : (s.ws i).gph = .coll b t0) :
    CanMove c s := by
  have hlen := (h ▸ (hsh.ws i).gph).2
  match hbuf : (s.ws i).buf with
  | z :: rest =>
    refine ⟨.gNext i, rfl, ?_⟩
    cases z with
    | stop => simp [step, hi, h, hlen, hbuf]
    | req r =>
      simp only [step, hi, h, hlen, hbuf, if_true]
      split <;> rfl
  | [] =>
    by_cases hd : t0 + c.wait ≤ s.clock
    · exact ⟨.gTimeout i, rfl, by simp [step, hi, h, hd]⟩
    · by_cases hall : (List.range c.k).all (fun j => tickOk c s.clock (s.ws j)) = true
      · exact ⟨.tick, List.any_eq_true.mpr ⟨i, List.mem_range.mpr hi, isColl_iff.mpr ⟨b, t0, h⟩⟩,
          by simp only [step, hall, if_true]; rfl⟩
      · obtain ⟨j, hj, hnot⟩ : ∃ j, j < c.k ∧ tickOk c s.clock (s.ws j) = false := by simpa using hall
        rcases not_tickOk hnot with ⟨b', t', hg⟩ | ⟨b', t', hg, hd'⟩ | hne
        · exact move_ready hj hg
        · exact ⟨.gTimeout j, rfl, by simp [step, hj, hg, hd']⟩
        · exact move_pd hj hne

theorem move_busy (hsh : ShapeInv c s) (hph : PhInv c s) (hns : s.stopped = false) (hi : i < c.k)
    (h : ¬((s.ws i).gph = .idle ∧ (s.ws i).pd = [])) : CanMove c s := by
  cases hg : (s.ws i).gph with
  | fin => exact absurd hg ((hph.clean hns).2 i).gph
  | ready b t0 => exact move_ready hi hg
  | coll b t0 => exact move_coll hsh hi hg
  | idle => exact move_pd hi fun hpd => h ⟨hg, hpd⟩

theorem move_buf (hsh : ShapeInv c s) (hph : PhInv c s) (hns : s.stopped = false) (hi : i < c.k)
    (hb : (s.ws i).buf ≠ []) : CanMove c s := by
  by_cases hidle : (s.ws i).gph = .idle ∧ (s.ws i).pd = []
  · have hb1 : 1 < c.b := Nat.lt_of_not_le fun h1 => hb (hph.single h1 i).1
    refine ⟨.gFirst i, rfl, ?_⟩
    match hbuf : (s.ws i).buf, hb with
    | z :: rest, _ => cases z <;> simp [step, hi, hb1, hidle, mayPull, hbuf]
  · exact move_busy hsh hph hns hi hidle

theorem progress_of_inv {c : Cfg} {s : State} (hsh : ShapeInv c s) (hph : PhInv c s)
    (hk : 0 < c.k) (hns : s.stopped = false) (hp : ∃ r, Pending c s r) : CanMove c s := by
  obtain ⟨r, hr | ⟨i, hi, hr⟩⟩ := hp
  · -- a request is waiting on q_in
    obtain ⟨z, rest, hq⟩ := List.exists_cons_of_ne_nil fun hq : s.qin = [] => by
      rw [hq] at hr
      cases hr
    by_cases hb1 : 1 < c.b
    · cases hl : s.lock with
      | some i =>
        -- the holder of the lock can move
        obtain ⟨hi, hh⟩ := (hph.lock i).mp hl
        cases hc : (s.ws i).cph with
        | top | done =>
          rw [hc] at hh
          cases hh
        | locked => exact ⟨.cGet i, rfl, by simp [step, hi, hc, hq]⟩
        | «have» z => exact move_have hph hi hc
        | after => exact move_after hi hc
        | decide => exact move_decide hi hc
      | none =>
        -- worker 0 can take the lock, or its buffer is full and its consumer can move
        have hnh : holds (s.ws 0).cph ≠ true := fun hh => by
          have := (hph.lock 0).mpr ⟨hk, hh⟩
          rw [hl] at this
          cases this
        have hc : (s.ws 0).cph = .top := by
          cases hc : (s.ws 0).cph with
          | top => rfl
          | done => exact absurd hc ((hph.clean hns).2 0).cph
          | _ =>
            rw [hc] at hnh
            exact absurd rfl hnh
        by_cases hroom : (s.ws 0).buf.length < c.cap
        · exact ⟨.cLock 0, rfl, by simp [step, hk, hb1, hc, hl, hroom]⟩
        · exact move_buf hsh hph hns hk fun he => hroom (by rw [he]; exact Nat.succ_pos _)
    · -- single mode: worker 0 reads q_in itself
      by_cases hidle : (s.ws 0).gph = .idle ∧ (s.ws 0).pd = []
      · refine ⟨.sGet 0, rfl, ?_⟩
        have hb0 : c.b ≤ 1 := Nat.le_of_not_lt hb1
        cases z with
        | stop => simp [step, hk, hidle, mayPull, hq, hb0]
        | req r' => by_cases hkind : r'.kind = .good <;> simp [step, hk, hidle, mayPull, hkind, hq, hb0]
      · exact move_busy hsh hph hns hk hidle
  · -- a request is inside worker i
    simp only [inflight, List.mem_append] at hr
    rcases hr with ((hr | hr) | hr) | hr
    · cases hc : (s.ws i).cph with
      | «have» z => exact move_have hph hi hc
      | _ =>
        rw [hc] at hr
        cases hr
    · exact move_buf hsh hph hns hi fun he => by rw [he] at hr; cases hr
    · exact move_busy hsh hph hns hi fun ⟨hg, _⟩ => by rw [hg] at hr; cases hr
    · exact move_busy hsh hph hns hi fun ⟨_, hpd⟩ => by rw [hpd] at hr; cases hr

end

/-- the system on its own: no arrival, no end marker -/
def ustep (c : Cfg) (s : State) (a : Act) : Option State := if usefulB c s a then step c s a else none

theorem ustep_some {c : Cfg} {s s' : State} {a : Act} (h : ustep c s a = some s') :
    usefulB c s a = true ∧ step c s a = some s' := by
  unfold ustep at h
  split at h
  · exact ⟨‹_›, h⟩
  · cases h

theorem ustep_keeps {c : Cfg} {s s' : State} {a : Act} (h : ustep c s a = some s') :
    s'.stopped = s.stopped ∧ s'.arrived = s.arrived := by
  obtain ⟨hu, hs⟩ := ustep_some h
  cases step_sound c s s' a hs with
  | arrive | stop => cases hu
  | _ => exact ⟨rfl, rfl⟩

theorem run_ustep {c : Cfg} {as : List Act} {s s' : State} (h : Core.run (ustep c) s as = some s') :
    Core.Reach (step c) s s' ∧ s'.stopped = s.stopped ∧ s'.arrived = s.arrived :=
  Core.invariant_run (Inv := fun t => Core.Reach (step c) s t ∧ t.stopped = s.stopped ∧ t.arrived = s.arrived)
    (fun _ _ _ hi ht =>
      ⟨hi.1.tail (ustep_some ht).2, (ustep_keeps ht).1.trans hi.2.1, (ustep_keeps ht).2.trans hi.2.2⟩)
    as s s' ⟨Core.Reach.refl _ _, rfl, rfl⟩ h

theorem mu_ustep (c : Cfg) (s : State) (a : Act) (s' : State) (h : ustep c s a = some s') : mu c s' < mu c s :=
  mu_decreases (step_sound c s s' a (ustep_some h).2) (ustep_some h).1

theorem quiet_of_not_pending {c : Cfg} {s : State} (h : ¬ ∃ r, Pending c s r) : Quiet c s :=
  ⟨List.eq_nil_iff_forall_not_mem.mpr fun r hr => h ⟨r, .inl hr⟩,
   fun i hi => List.eq_nil_iff_forall_not_mem.mpr fun r hr => h ⟨r, .inr ⟨i, hi, hr⟩⟩⟩

end Batch
