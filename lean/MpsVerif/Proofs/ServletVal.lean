import MpsVerif.Model.Servlet
/-!
# Lemmas on the denotation: membership in `choices`, `partials`, `ensOuts`; exception short-circuit
-/
namespace Servlet

theorem mem_choices (oss : List (List Val)) (ys : List Val) :
    ys ∈ choices oss ↔ ys.length = oss.length ∧ ∀ i y, ys[i]? = some y → y ∈ oss.getD i [] := by
  induction oss generalizing ys with
  | nil =>
    rw [choices, List.mem_singleton]
    refine ⟨?_, fun h => List.eq_nil_of_length_eq_zero h.1⟩
    rintro rfl
    exact ⟨rfl, fun i y h => nomatch h⟩
  | cons os rest ih =>
    rw [choices, List.mem_flatMap]
    constructor
    · rintro ⟨o, ho, h⟩
      obtain ⟨zs, hzs, rfl⟩ := List.mem_map.mp h
      obtain ⟨h1, h2⟩ := (ih zs).mp hzs
      refine ⟨congrArg Nat.succ h1, fun i y hi => ?_⟩
      cases i with
      | zero =>
        cases hi
        exact ho
      | succ i => exact h2 i y hi
    · rintro ⟨h1, h2⟩
      cases ys with
      | nil => cases h1
      | cons y ys =>
        exact ⟨y, h2 0 y rfl, List.mem_map.mpr ⟨ys, (ih ys).mpr ⟨Nat.succ.inj h1, fun i z hi => h2 (i+1) z hi⟩, rfl⟩⟩

theorem mem_partials (oss : List (List Val)) (p : List (Option Val)) :
    p ∈ partials oss ↔ p.length = oss.length ∧
      ∀ i y, p[i]? = some (some y) → y ∈ oss.getD i [] ∧ y.isExc = false := by
  induction oss generalizing p with
  | nil =>
    rw [partials, List.mem_singleton]
    refine ⟨?_, fun h => List.eq_nil_of_length_eq_zero h.1⟩
    rintro rfl
    exact ⟨rfl, fun i y h => nomatch h⟩
  | cons os rest ih =>
    rw [partials, List.mem_flatMap]
    constructor
    · rintro ⟨q, hq, h⟩
      obtain ⟨h1, h2⟩ := (ih q).mp hq
      rcases List.mem_cons.mp h with rfl | h
      · refine ⟨congrArg Nat.succ h1, fun i y hi => ?_⟩
        cases i with
        | zero => cases hi
        | succ i => exact h2 i y hi
      · obtain ⟨o, ho, rfl⟩ := List.mem_map.mp h
        obtain ⟨ho, hne⟩ := List.mem_filter.mp ho
        refine ⟨congrArg Nat.succ h1, fun i y hi => ?_⟩
        cases i with
        | zero =>
          cases hi
          exact ⟨ho, by simpa using hne⟩
        | succ i => exact h2 i y hi
    · rintro ⟨h1, h2⟩
      cases p with
      | nil => cases h1
      | cons a q =>
        refine ⟨q, (ih q).mpr ⟨Nat.succ.inj h1, fun i z hi => h2 (i+1) z hi⟩, ?_⟩
        cases a with
        | none => exact List.mem_cons_self
        | some o =>
          obtain ⟨g1, g2⟩ := h2 0 o rfl
          exact List.mem_cons_of_mem _ (List.mem_map.mpr ⟨o, List.mem_filter.mpr ⟨g1, by simpa using g2⟩, rfl⟩)

theorem filled_cons (a : Option Val) (p : List (Option Val)) :
    filled (a :: p) = filled p + (if a.isSome then 1 else 0) :=
  List.countP_cons

theorem filled_replicate (n : Nat) : filled (List.replicate n (Option.none : Option Val)) = 0 := by
  induction n with
  | zero => rfl
  | succ n ih =>
    rw [List.replicate_succ, filled_cons, ih]
    rfl

theorem filled_le (p : List (Option Val)) : filled p ≤ p.length := List.countP_le_length

theorem filled_set {p : List (Option Val)} {i : Nat} (y : Val) (h : p[i]? = some .none) :
    filled (p.set i (some y)) = filled p + 1 := by
  induction p generalizing i with
  | nil => cases h
  | cons a q ih =>
    cases i with
    | zero =>
      cases h
      rw [List.set_cons_zero, filled_cons, filled_cons]
      rfl
    | succ i => rw [List.set_cons_succ, filled_cons, filled_cons, ih h, Nat.add_right_comm]

theorem map_some_of_filled (p : List (Option Val)) (h : filled p = p.length) :
    (p.map (·.getD .none)).map some = p := by
  induction p with
  | nil => rfl
  | cons a q ih =>
    have hle := filled_le q
    rw [filled_cons, List.length_cons] at h
    cases a with
    | none => exact absurd h (Nat.ne_of_lt (Nat.lt_succ_of_le hle))
    | some o =>
      rw [List.map_cons, List.map_cons, ih (Nat.succ.inj h)]
      rfl

theorem filled_of_no_hole (p : List (Option Val)) (h : ∀ i, i < p.length → p[i]? ≠ some .none) :
    filled p = p.length := by
  induction p with
  | nil => rfl
  | cons a q ih =>
    rw [filled_cons, ih fun i hi => h (i + 1) (Nat.succ_lt_succ hi)]
    cases a with
    | none => exact absurd rfl (h 0 (Nat.zero_lt_succ _))
    | some o => rfl

theorem getD_map_apply (ms : List (Val → List Val)) (x : Val) (i : Nat) :
    (ms.map (· x)).getD i [] = (ms.getD i (fun _ => [])) x := by
  simp only [List.getD_eq_getElem?_getD, List.getElem?_map]
  cases ms[i]? <;> simp


/-- fail-fast ensemble: the allowed outcomes are exactly (a) the list of member results when none
    of them is an exception, (b) an `EnsembleError` carrying a partial result list `p` without
    exceptions plus ONE failing member result `y` (the first exception received), `n` = number of
    results received -/
theorem mem_ensOuts_ff (oss : List (List Val)) (r : Val) :
    r ∈ ensOuts true oss ↔
      (∃ ys, ys ∈ choices oss ∧ ys.any Val.isExc = false ∧ r = ofList ys) ∨
      (∃ p, p ∈ partials oss ∧ ∃ e, e < oss.length ∧ p[e]? = some .none ∧
        ∃ y, y ∈ oss.getD e [] ∧ y.isExc = true ∧ r = ensErr (p.set e (some y)) (filled p + 1)) := by
  simp only [ensOuts, if_true, List.mem_append, List.mem_map, List.mem_filter, List.mem_flatMap,
    List.mem_range]
  constructor
  · rintro (⟨ys, ⟨h1, h2⟩, rfl⟩ | ⟨p, hp, e, he, h⟩)
    · exact Or.inl ⟨ys, h1, by simpa using h2, rfl⟩
    · right
      split at h
      · rename_i hs
        simp only [List.mem_map, List.mem_filter] at h
        obtain ⟨y, ⟨hy, hx⟩, rfl⟩ := h
        exact ⟨p, hp, e, he, hs, y, hy, hx, rfl⟩
      · simp at h
  · rintro (⟨ys, h1, h2, rfl⟩ | ⟨p, hp, e, he, hs, y, hy, hx, rfl⟩)
    · exact Or.inl ⟨ys, ⟨h1, by simpa using h2⟩, rfl⟩
    · right
      refine ⟨p, hp, e, he, ?_⟩
      rw [if_pos hs]
      simp only [List.mem_map, List.mem_filter]
      exact ⟨y, ⟨hy, hx⟩, rfl⟩

/-- without fail-fast: the list of all member results, replaced by an `EnsembleError` iff ALL of
    them are exceptions -/
theorem mem_ensOuts_nff (oss : List (List Val)) (r : Val) :
    r ∈ ensOuts false oss ↔ ∃ ys, ys ∈ choices oss ∧ r = ensFull ys := by
  rw [ensOuts, if_neg Bool.false_ne_true, List.mem_map]
  exact exists_congr fun ys => and_congr_right fun _ => eq_comm


theorem outsEach_eq (ts : List Tree) (x : Val) : outsEach ts x = (ts.map outs).map (· x) := by
  induction ts with
  | nil => rfl
  | cons t ts ih => simp [outsEach, ih]

theorem outsNth_eq (ts : List Tree) (i : Nat) (x : Val) :
    outsNth ts i x = ((ts.map outs).getD i (fun _ => [])) x := by
  induction ts generalizing i with
  | nil => simp [outsNth]
  | cons t ts ih =>
    cases i with
    | zero => simp [outsNth]
    | succ i => simp [outsNth, ih]

theorem mem_wouts {w : WSpec} {x y : Val} (h : y ∈ wouts w x) :
    y = x ∨ y = w.pre x ∨ y = w.f (w.pre x) ∨ (w.bs ≠ 0 ∧ y ∈ w.berrs) := by
  unfold wouts at h
  by_cases h1 : x.isExc = true
  · rw [if_pos h1] at h
    exact Or.inl (List.mem_singleton.mp h)
  · rw [if_neg h1] at h
    by_cases h2 : (w.pre x).isExc = true
    · rw [if_pos h2] at h
      exact Or.inr (Or.inl (List.mem_singleton.mp h))
    · rw [if_neg h2] at h
      by_cases h3 : w.bs = 0
      · rw [if_pos h3] at h
        exact Or.inr (Or.inr (Or.inl (List.mem_singleton.mp h)))
      · rw [if_neg h3] at h
        exact Or.inr (Or.inr ((List.mem_cons.mp h).imp id fun h4 => ⟨h3, h4⟩))

theorem wouts_exc (w : WSpec) (x : Val) (h : x.isExc = true) : wouts w x = [x] := by
  simp [wouts, h]

mutual
/-- exception short-circuit: an exception value passes through any servlet tree unchanged -/
theorem outs_exc : (t : Tree) → ∀ x, x.isExc = true → outs t x = [x]
  | .worker w, x, h => wouts_exc w x h
  | .seq ts, x, h => outsSeq_exc ts x h
  | .ens _ _, _, h => if_pos h
  | .switch _ _, _, h => if_pos h
theorem outsSeq_exc : (ts : List Tree) → ∀ x, x.isExc = true → outsSeq ts x = [x]
  | [], _, _ => rfl
  | t :: ts, x, h => by
    show (outs t x).flatMap _ = [x]
    rw [outs_exc t x h, List.flatMap_cons, List.flatMap_nil, List.append_nil]
    exact outsSeq_exc ts x h
end

mutual
/-- no fail-fast ensemble, no batched worker whose `call` may fail as a whole, and `switch` returns
    a member index: then the outcome of a request is a function of its input -/
def Det : Tree → Prop
  | .worker w => w.bs = 0 ∨ w.berrs = []
  | .seq ts => Dets ts
  | .ens ts ff => ff = false ∧ Dets ts
  | .switch ts sel => (∀ x, sel x < ts.length) ∧ Dets ts
def Dets : List Tree → Prop
  | [] => True
  | t :: ts => Det t ∧ Dets ts
end

theorem choices_singletons (l : List Val) : choices (l.map (fun r => [r])) = [l] := by
  induction l with
  | nil => rfl
  | cons a l ih => simp [choices, ih]

theorem wouts_det (w : WSpec) (hd : w.bs = 0 ∨ w.berrs = []) (x : Val) : ∃ r, wouts w x = [r] := by
  unfold wouts
  by_cases h1 : x.isExc = true
  · exact ⟨_, if_pos h1⟩
  · rw [if_neg h1]
    by_cases h2 : (w.pre x).isExc = true
    · exact ⟨_, if_pos h2⟩
    · rw [if_neg h2]
      by_cases h3 : w.bs = 0
      · exact ⟨_, if_pos h3⟩
      · rw [if_neg h3, hd.resolve_left h3]
        exact ⟨_, rfl⟩

mutual
theorem outs_det : (t : Tree) → Det t → ∀ x, ∃ r, outs t x = [r]
  | .worker w, hd, x => wouts_det w hd x
  | .seq ts, hd, x => outsSeq_det ts hd x
  | .ens ts ff, hd, x => by
    by_cases h : x.isExc = true
    · exact ⟨x, if_pos h⟩
    · obtain ⟨l, hl⟩ := outsEach_det ts hd.2 x
      refine ⟨ensFull l, (if_neg h).trans ?_⟩
      rw [hd.1, hl, ensOuts, if_neg Bool.false_ne_true, choices_singletons]
      rfl
  | .switch ts sel, hd, x => by
    by_cases h : x.isExc = true
    · exact ⟨x, if_pos h⟩
    · obtain ⟨r, hr⟩ := outsNth_det ts hd.2 (sel x) (hd.1 x) x
      exact ⟨r, (if_neg h).trans hr⟩
theorem outsSeq_det : (ts : List Tree) → Dets ts → ∀ x, ∃ r, outsSeq ts x = [r]
  | [], _, x => ⟨x, rfl⟩
  | t :: ts, hd, x => by
    obtain ⟨r, hr⟩ := outs_det t hd.1 x
    obtain ⟨r', hr'⟩ := outsSeq_det ts hd.2 r
    refine ⟨r', ?_⟩
    show (outs t x).flatMap _ = [r']
    rw [hr, List.flatMap_cons, List.flatMap_nil, List.append_nil]
    exact hr'
theorem outsEach_det : (ts : List Tree) → Dets ts → ∀ x, ∃ l : List Val, outsEach ts x = l.map (fun r => [r])
  | [], _, _ => ⟨[], rfl⟩
  | t :: ts, hd, x => by
    obtain ⟨r, hr⟩ := outs_det t hd.1 x
    obtain ⟨l, hl⟩ := outsEach_det ts hd.2 x
    refine ⟨r :: l, ?_⟩
    show outs t x :: outsEach ts x = _
    rw [hr, hl]
    rfl
theorem outsNth_det : (ts : List Tree) → Dets ts → ∀ i, i < ts.length → ∀ x, ∃ r, outsNth ts i x = [r]
  | [], _, i, hi, _ => absurd hi (Nat.not_lt_zero _)
  | t :: ts, hd, i, hi, x => by
    cases i with
    | zero => exact outs_det t hd.1 x
    | succ i => exact outsNth_det ts hd.2 i (Nat.lt_of_succ_lt_succ hi) x
end

end Servlet
