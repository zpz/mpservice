import MpsVerif.Proofs.TeeInvStep
/-! Layer 2 of the `tee` invariants: the consumption counts count forks, and the window is popped
    exactly once per box, in order, by the last fork to count it. -/
namespace Tee

def countF : Nat → (Nat → Bool) → Nat
  | 0, _ => 0
  | n + 1, p => countF n p + (if p n then 1 else 0)

theorem countF_le (n : Nat) (p : Nat → Bool) : countF n p ≤ n := by
  induction n with
  | zero => simp [countF]
  | succ n ih =>
    simp only [countF]
    split <;> omega

theorem countF_congr (n : Nat) (p q : Nat → Bool) (h : ∀ g, g < n → p g = q g) : countF n p = countF n q := by
  induction n with
  | zero => rfl
  | succ n ih =>
    simp only [countF]
    rw [ih (fun g hg => h g (by omega)), h n (by omega)]

theorem countF_eq_n (n : Nat) (p : Nat → Bool) : countF n p = n ↔ ∀ g, g < n → p g = true := by
  induction n with
  | zero => simp [countF]
  | succ n ih =>
    simp only [countF]
    have := countF_le n p
    constructor
    · intro h g hg
      by_cases hp : p n = true
      · simp [hp] at h
        by_cases hgn : g = n
        · subst hgn
          exact hp
        · exact ih.mp h g (by omega)
      · simp [hp] at h
        omega
    · intro h
      rw [ih.mpr (fun g hg => h g (by omega)), h n (by omega)]
      simp

theorem countF_update {n : Nat} {p q : Nat → Bool} {f : Nat} (hf : f < n) (hp : p f = false) (hq : q f = true)
    (h : ∀ g, g < n → g ≠ f → p g = q g) : countF n q = countF n p + 1 := by
  induction n with
  | zero => omega
  | succ n ih =>
    simp only [countF]
    by_cases hfn : f = n
    · subst hfn
      rw [countF_congr f q p (fun g hg => (h g (by omega) (by omega)).symm), hp, hq]
      simp
    · rw [ih (by omega) (fun g hg hgf => h g (by omega) hgf), h n (by omega) (fun e => hfn e.symm)]
      omega

structure Inv2 (c : Cfg) (s : State) : Prop where
  cnt_eq : ∀ j, s.cnt j = countF c.n (fun g => decide (j < (s.forks g).inc))
  pop_le : ∀ f, f < c.n → s.popped ≤ (s.forks f).inc
  mutex : ∀ f g j, f < c.n → g < c.n → holdsBox (s.forks f) j = true → holdsBox (s.forks g) j = true → f = g
  full_pop : ∀ j, (∀ g, g < c.n → j < (s.forks g).inc) →
    j < s.popped ∨ ∃ g, g < c.n ∧ ((s.forks g).pc = .bCmp ∨ (s.forks g).pc = .bGet) ∧ (s.forks g).inc = j + 1
  cmp_inv : ∀ f, f < c.n → ((s.forks f).pc = .bCmp ∨ (s.forks f).pc = .bGet) → s.popped < (s.forks f).inc
  get_inv : ∀ f, f < c.n → (s.forks f).pc = .bGet → ∀ g, g < c.n → (s.forks f).inc ≤ (s.forks g).inc
  tmp_ok : ∀ f, f < c.n → (s.forks f).pc = .bIncW → (s.forks f).tmp = s.cnt (s.forks f).inc

theorem countF_false (n : Nat) : countF n (fun _ => false) = 0 := by
  induction n with
  | zero => rfl
  | succ n ih => simp [countF, ih]

theorem inv2_init {c : Cfg} (hn : 0 < c.n) : Inv2 c init := by
  constructor
  · intro j
    simp [init, fork0, countF_false]
  · intro f _
    simp [init]
  · intro f g j _ _ h
    simp [init, fork0, holdsBox] at h
  · intro j h
    have := h 0 hn
    simp [init, fork0] at this
  · intro f _ h
    simp [init, fork0] at h
  · intro f _ h
    simp [init, fork0] at h
  · intro f _ h
    simp [init, fork0] at h

theorem holdsBox_iff (fk : Fork) (j : Nat) : holdsBox fk j = true ↔
    fk.cur = some j ∧ (fk.pc = .bInc ∨ fk.pc = .bIncW ∨ fk.pc = .bCmp ∨ fk.pc = .bGet ∨ fk.pc = .bRel) := by
  simp [holdsBox, or_assoc]

theorem boxFree_spec {c : Cfg} {s : State} {f j g : Nat} (h : boxFree c s f j = true) (hg : g < c.n) (hgf : g ≠ f) :
    holdsBox (s.forks g) j = false := by
  simp only [boxFree, List.all_eq_true, List.mem_range] at h
  have := h g hg
  simp [hgf] at this
  exact this

/-- program points inside `with box.lock:` -/
def Pc.inBox : Pc → Bool
  | .bInc | .bIncW | .bCmp | .bGet | .bRel => true
  | _ => false

theorem holdsBox_eq (fk : Fork) (j : Nat) : holdsBox fk j = (fk.cur == some j && fk.pc.inBox) := by
  unfold holdsBox
  cases fk.pc <;> rfl

theorem holdsBox_outside {fk : Fork} (h : fk.pc.inBox = false) (j : Nat) : holdsBox fk j = false := by
  rw [holdsBox_eq, h, Bool.and_false]

theorem Inv2.mutex_step {c : Cfg} {s s' : State} {f : Nat} {fk : Fork} (h : Inv2 c s)
    (hfs : s'.forks = (setFork s f fk).forks)
    (hbox : ∀ j, holdsBox fk j = true →
      holdsBox (s.forks f) j = true ∨ ∀ g, g < c.n → g ≠ f → holdsBox (s.forks g) j = false) :
    ∀ f1 f2 j, f1 < c.n → f2 < c.n → holdsBox (s'.forks f1) j = true → holdsBox (s'.forks f2) j = true →
      f1 = f2 := by
  have key : ∀ g1 g2 j, g1 < c.n → g2 < c.n → g2 ≠ f → holdsBox (s'.forks g1) j = true →
      holdsBox (s.forks g2) j = true → g1 = g2 := by
    intro g1 g2 j hg1 hg2 hne h1 h2
    rw [hfs] at h1
    by_cases e1 : g1 = f
    · rw [e1, setFork_same] at h1
      rcases hbox j h1 with h0 | h0
      · exact h.mutex g1 g2 j hg1 hg2 (e1 ▸ h0) h2
      · rw [h0 g2 hg2 hne] at h2
        cases h2
    · rw [setFork_ne _ _ e1] at h1
      exact h.mutex g1 g2 j hg1 hg2 h1 h2
  intro f1 f2 j hf1 hf2 h1 h2
  by_cases e2 : f2 = f
  · by_cases e1 : f1 = f
    · rw [e1, e2]
    · refine (key f2 f1 j hf2 hf1 e1 h2 ?_).symm
      rw [hfs, setFork_ne _ _ e1] at h1
      exact h1
  · refine key f1 f2 j hf1 hf2 e2 h1 ?_
    rw [hfs, setFork_ne _ _ e2] at h2
    exact h2

/-- For a step that neither writes nor completes a count there remains the popping discipline,
    stated with the unchanged `inc` fields. -/
theorem Inv2.step_keep {c : Cfg} {s s' : State} {f : Nat} {fk : Fork} (h : Inv2 c s)
    (hfs : s'.forks = (setFork s f fk).forks) (hcnt : s'.cnt = s.cnt) (hinc : fk.inc = (s.forks f).inc)
    (hbox : ∀ j, holdsBox fk j = true →
      holdsBox (s.forks f) j = true ∨ ∀ g, g < c.n → g ≠ f → holdsBox (s.forks g) j = false)
    (htmp : fk.pc = .bIncW → fk.tmp = s.cnt fk.inc)
    (hpop : ∀ g, g < c.n → s'.popped ≤ (s.forks g).inc)
    (hfull : ∀ j, (∀ g, g < c.n → j < (s.forks g).inc) → j < s'.popped ∨
      ∃ g, g < c.n ∧ ((s'.forks g).pc = .bCmp ∨ (s'.forks g).pc = .bGet) ∧ (s.forks g).inc = j + 1)
    (hcmp : ∀ g, g < c.n → ((s'.forks g).pc = .bCmp ∨ (s'.forks g).pc = .bGet) → s'.popped < (s.forks g).inc)
    (hget : ∀ g, g < c.n → (s'.forks g).pc = .bGet → ∀ g', g' < c.n → (s.forks g).inc ≤ (s.forks g').inc) :
    Inv2 c s' := by
  have e1 : ∀ g, (s'.forks g).inc = (s.forks g).inc := by
    intro g
    rw [hfs]
    by_cases hg : g = f
    · rw [hg, setFork_same, hinc]
    · rw [setFork_ne _ _ hg]
  refine ⟨?_, ?_, h.mutex_step hfs hbox, ?_, ?_, ?_, ?_⟩
  · intro j
    simp only [hcnt, e1]
    exact h.cnt_eq j
  · intro g hg
    rw [e1]
    exact hpop g hg
  · intro j hj
    simp only [e1] at hj ⊢
    exact hfull j hj
  · intro g hg hp
    rw [e1]
    exact hcmp g hg hp
  · intro g hg hp
    simp only [e1]
    exact hget g hg hp
  · intro g hg
    rw [hfs, hcnt]
    by_cases hgf : g = f
    · rw [hgf, setFork_same]
      exact htmp
    · rw [setFork_ne _ _ hgf]
      exact h.tmp_ok g hg

theorem Inv2.step_same {c : Cfg} {s s' : State} {f : Nat} {fk : Fork} (h : Inv2 c s)
    (hfs : s'.forks = (setFork s f fk).forks) (hcnt : s'.cnt = s.cnt) (hpop : s'.popped = s.popped)
    (hinc : fk.inc = (s.forks f).inc)
    (hcmp : fk.pc = .bCmp ↔ (s.forks f).pc = .bCmp) (hget : fk.pc = .bGet ↔ (s.forks f).pc = .bGet)
    (hbox : ∀ j, holdsBox fk j = true →
      holdsBox (s.forks f) j = true ∨ ∀ g, g < c.n → g ≠ f → holdsBox (s.forks g) j = false)
    (htmp : fk.pc = .bIncW → fk.tmp = s.cnt fk.inc) : Inv2 c s' := by
  have e2 : ∀ g, (s'.forks g).pc = .bCmp ↔ (s.forks g).pc = .bCmp := by
    intro g
    rw [hfs]
    by_cases hg : g = f
    · rw [hg, setFork_same, hcmp]
    · rw [setFork_ne _ _ hg]
  have e3 : ∀ g, (s'.forks g).pc = .bGet ↔ (s.forks g).pc = .bGet := by
    intro g
    rw [hfs]
    by_cases hg : g = f
    · rw [hg, setFork_same, hget]
    · rw [setFork_ne _ _ hg]
  refine h.step_keep hfs hcnt hinc hbox htmp ?_ ?_ ?_ ?_
  · rw [hpop]
    exact h.pop_le
  · simp only [hpop, e2, e3]
    exact h.full_pop
  · simp only [hpop, e2, e3]
    exact h.cmp_inv
  · simp only [e3]
    exact h.get_inv

theorem Inv2.step_outside {c : Cfg} {s s' : State} {f : Nat} {fk : Fork} (h : Inv2 c s)
    (hfs : s'.forks = (setFork s f fk).forks) (hcnt : s'.cnt = s.cnt) (hpop : s'.popped = s.popped)
    (hinc : fk.inc = (s.forks f).inc) (hold : (s.forks f).pc.inBox = false) (hnew : fk.pc.inBox = false) :
    Inv2 c s' := by
  exact h.step_same hfs hcnt hpop hinc ⟨fun e => (nomatch e ▸ hnew), fun e => nomatch e ▸ hold⟩
    ⟨fun e => (nomatch e ▸ hnew), fun e => nomatch e ▸ hold⟩
    (fun j hj => nomatch (holdsBox_outside hnew j).symm.trans hj) (fun e => nomatch e ▸ hnew)

theorem Inv2.pops_own {c : Cfg} {s : State} {f : Nat} (h : Inv2 c s) (hf : f < c.n) (hp : (s.forks f).pc = .bGet) :
    s.popped + 1 = (s.forks f).inc ∧ ∀ g, g < c.n → s.popped < (s.forks g).inc := by
  have q1 := h.get_inv f hf hp
  have q2 := h.cmp_inv f hf (.inr hp)
  have hfull : ∀ g, g < c.n → s.popped < (s.forks g).inc := fun g hg => Nat.lt_of_lt_of_le q2 (q1 g hg)
  refine ⟨?_, hfull⟩
  rcases h.full_pop s.popped hfull with h | ⟨g, hg, _, hig⟩
  · exact absurd h (Nat.lt_irrefl _)
  · have := q1 g hg
    omega

/-- `box.n += 1` completes: fork `f` has counted box `j`. -/
theorem Inv2.count {c : Cfg} {s s' : State} {f j : Nat} (h : Inv2 c s) (hi : Inv c s) (hf : f < c.n)
    (hc : (s.forks f).cur = some j) (hp : (s.forks f).pc = .bIncW)
    (hself : s'.forks f = { s.forks f with pc := .bCmp, inc := (s.forks f).inc + 1 })
    (hne : ∀ g, g ≠ f → s'.forks g = s.forks g)
    (hcnt : s'.cnt = fun i => if i = j then (s.forks f).tmp + 1 else s.cnt i) (hpop : s'.popped = s.popped) :
    Inv2 c s' := by
  have hj : (s.forks f).inc = j := Option.some.inj ((hi.at hf hp).1.1.symm.trans hc)
  have htmp : (s.forks f).tmp = s.cnt j := by rw [h.tmp_ok f hf hp, hj]
  have hinc : (s'.forks f).inc = j + 1 := by
    rw [hself]
    exact congrArg (· + 1) hj
  have hpc : (s'.forks f).pc = .bCmp := by rw [hself]
  refine ⟨fun i => ?_, fun g hg => ?_, ?_, fun i hfull => ?_, fun g hg hpg => ?_, fun g hg hpg g' hg' => ?_,
    fun g hg hpg => ?_⟩
  · rw [hcnt]
    show (if i = j then (s.forks f).tmp + 1 else s.cnt i) = _
    by_cases hij : i = j
    · rw [if_pos hij, htmp, hij, h.cnt_eq j]
      refine (countF_update hf ?_ ?_ fun g _ hgf => ?_).symm
      · exact decide_eq_false (by rw [hj]; exact Nat.lt_irrefl j)
      · exact decide_eq_true (by rw [hinc]; exact Nat.lt_succ_self j)
      · show decide _ = decide _
        rw [hne g hgf]
    · rw [if_neg hij, h.cnt_eq i]
      refine countF_congr c.n _ _ fun g _ => ?_
      show decide _ = decide _
      by_cases hgf : g = f
      · rw [hgf, hinc, hj]
        exact decide_eq_decide.mpr (by omega)
      · rw [hne g hgf]
  · rw [hpop]
    by_cases hgf : g = f
    · have := h.pop_le f hf
      rw [hgf, hinc]
      omega
    · rw [hne g hgf]
      exact h.pop_le g hg
  · intro f1 f2 j' hf1 hf2 h1 h2
    have key : ∀ g, holdsBox (s'.forks g) j' = true → holdsBox (s.forks g) j' = true := by
      intro g hg
      by_cases hgf : g = f
      · rw [hgf, hself] at hg
        rw [hgf]
        rw [holdsBox_iff] at hg ⊢
        exact ⟨hg.1, .inr (.inl hp)⟩
      · rw [hne g hgf] at hg
        exact hg
    exact h.mutex f1 f2 j' hf1 hf2 (key f1 h1) (key f2 h2)
  · by_cases hij : i = j
    · exact .inr ⟨f, hf, .inl hpc, hij ▸ hinc⟩
    · have hfull' : ∀ g, g < c.n → i < (s.forks g).inc := by
        intro g hg
        have := hfull g hg
        by_cases hgf : g = f
        · rw [hgf, hinc] at this
          rw [hgf]
          omega
        · rw [hne g hgf] at this
          exact this
      rw [hpop]
      rcases h.full_pop i hfull' with h' | ⟨g, hg, hpg, hig⟩
      · exact .inl h'
      · have hgf : g ≠ f := by
          intro e
          rw [e, hp] at hpg
          rcases hpg with e | e <;> cases e
        exact .inr ⟨g, hg, by rw [hne g hgf]; exact hpg, by rw [hne g hgf]; exact hig⟩
  · rw [hpop]
    by_cases hgf : g = f
    · have := h.pop_le f hf
      rw [hgf, hinc]
      omega
    · rw [hne g hgf] at hpg ⊢
      exact h.cmp_inv g hg hpg
  · have hgf : g ≠ f := by
      intro e
      rw [e, hpc] at hpg
      cases hpg
    rw [hne g hgf] at hpg ⊢
    have := h.get_inv g hg hpg g' hg'
    by_cases hgf' : g' = f
    · rw [hgf', hinc]
      rw [hgf'] at this
      omega
    · rw [hne g' hgf']
      exact this
  · have hgf : g ≠ f := by
      intro e
      rw [e, hpc] at hpg
      cases hpg
    rw [hne g hgf] at hpg ⊢
    rw [hcnt]
    have hgj : (s.forks g).inc ≠ j := by
      intro e
      refine hgf (h.mutex g f j hg hf ?_ ?_)
      · rw [holdsBox_iff]
        exact ⟨e ▸ (hi.at hg hpg).1.1, .inr (.inl hpg)⟩
      · rw [holdsBox_iff]
        exact ⟨hc, .inr (.inl hp)⟩
    show _ = if (s.forks g).inc = j then _ else _
    rw [if_neg hgj]
    exact h.tmp_ok g hg hpg

theorem inv2_step {c : Cfg} {s : State} {a : Act} {s' : State} (hi : Inv c s) (h2 : Inv2 c s)
    (hs : Step c s a s') : Inv2 c s' := by
  obtain ⟨f, k⟩ := a
  have hf := hs.lt
  cases hs
  case bacq j _ hc hb hp =>
    refine h2.step_same rfl rfl rfl rfl ⟨nofun, fun e => nomatch hp ▸ e⟩ ⟨nofun, fun e => nomatch hp ▸ e⟩
      (fun j' hj' => .inr fun g hg hgf => ?_) nofun
    obtain rfl : j = j' := Option.some.inj (hc.symm.trans ((holdsBox_iff _ _).mp hj').1)
    exact boxFree_spec hb hg hgf
  case incRead j _ hc hp =>
    have hj : j = (s.forks f).inc := Option.some.inj (hc.symm.trans (hi.at hf hp).1.1)
    refine h2.step_same rfl rfl rfl rfl ⟨nofun, fun e => nomatch hp ▸ e⟩ ⟨nofun, fun e => nomatch hp ▸ e⟩
      (fun j' hj' => .inl ?_) (fun _ => congrArg s.cnt hj)
    rw [holdsBox_iff] at hj' ⊢
    exact ⟨hj'.1, .inl hp⟩
  case brel _ hp =>
    exact h2.step_same rfl rfl rfl rfl ⟨nofun, fun e => nomatch hp ▸ e⟩ ⟨nofun, fun e => nomatch hp ▸ e⟩
      (fun j' hj' => nomatch (holdsBox_outside rfl j').symm.trans hj') nofun
  case inc j _ hc hp =>
    exact h2.count hi hf hc hp (setFork_same _ _ _) (fun g hg => setFork_ne _ _ hg) rfl rfl
  case cmp j _ hc hp =>
    obtain ⟨hcur, hpos, -⟩ := (hi.at hf hp).1
    have hj : (s.forks f).inc = j + 1 := by
      have := Option.some.inj (hc.symm.trans hcur)
      omega
    have hfulliff : s.cnt j = c.n ↔ ∀ g, g < c.n → j < (s.forks g).inc := by
      rw [h2.cnt_eq j, countF_eq_n]
      exact forall_congr' fun g => forall_congr' fun _ => decide_eq_true_iff
    have hpf := congrArg Fork.pc (setFork_same s f { s.forks f with pc := if s.cnt j = c.n then .bGet else .bRel })
    have hpg := fun g (hg : g ≠ f) => congrArg Fork.pc
      (setFork_ne s { s.forks f with pc := if s.cnt j = c.n then .bGet else .bRel } hg)
    refine h2.step_keep rfl rfl rfl (fun j' hj' => .inl ?_) (fun e => ?_) h2.pop_le (fun i hfull => ?_)
      (fun g hg hp' => ?_) (fun g hg hp' g' hg' => ?_)
    · rw [holdsBox_iff] at hj' ⊢
      exact ⟨hj'.1, .inr (.inr (.inl hp))⟩
    · have e : (if s.cnt j = c.n then Pc.bGet else Pc.bRel) = .bIncW := e
      split at e <;> cases e
    · rcases h2.full_pop i hfull with h | ⟨g, hg, hp', hig⟩
      · exact .inl h
      · by_cases hgf : g = f
        · obtain rfl : i = j := by
            rw [hgf] at hig
            omega
          exact .inr ⟨f, hf, .inr (by rw [hpf]; exact if_pos (hfulliff.mpr hfull)), hgf ▸ hig⟩
        · exact .inr ⟨g, hg, by rw [hpg g hgf]; exact hp', hig⟩
    · by_cases hgf : g = f
      · rw [hgf]
        exact h2.cmp_inv f hf (.inl hp)
      · rw [hpg g hgf] at hp'
        exact h2.cmp_inv g hg hp'
    · by_cases hgf : g = f
      · rw [hgf, hpf] at hp'
        have hn : s.cnt j = c.n := by
          apply Classical.byContradiction
          intro hn
          rw [if_neg hn] at hp'
          cases hp'
        have := hfulliff.mp hn g' hg'
        rw [hgf, hj]
        exact this
      · rw [hpg g hgf] at hp'
        exact h2.get_inv g hg hp' g' hg'
  case get _ hl hp =>
    have q1 := h2.get_inv f hf hp
    have hown := (h2.pops_own hf hp).1
    have hpf := congrArg Fork.pc (setFork_same s f { s.forks f with pc := .bRel })
    have hpg := fun g (hg : g ≠ f) => congrArg Fork.pc (setFork_ne s { s.forks f with pc := .bRel } hg)
    refine h2.step_keep rfl rfl rfl (fun j' hj' => .inl ?_) nofun (fun g hg => ?_) (fun i hfull => ?_)
      (fun g hg hp' => ?_) (fun g hg hp' g' hg' => ?_)
    · rw [holdsBox_iff] at hj' ⊢
      exact ⟨hj'.1, .inr (.inr (.inr (.inl hp)))⟩
    · have := q1 g hg
      show s.popped + 1 ≤ _
      omega
    · show i < s.popped + 1 ∨ _
      rcases h2.full_pop i hfull with h | ⟨g, hg, hp', hig⟩
      · exact .inl (Nat.lt_succ_of_lt h)
      · by_cases hgf : g = f
        · rw [hgf] at hig
          exact .inl (by omega)
        · exact .inr ⟨g, hg, by rw [hpg g hgf]; exact hp', hig⟩
    · have hgf : g ≠ f := by
        intro e
        rw [e, hpf] at hp'
        rcases hp' with e | e <;> cases e
      rw [hpg g hgf] at hp'
      have := h2.cmp_inv g hg hp'
      have hne : (s.forks g).inc ≠ (s.forks f).inc := by
        intro e
        apply hgf
        have hcg := (hi.at hg rfl)
        refine h2.mutex g f ((s.forks f).inc - 1) hg hf ?_ ?_
        · rw [holdsBox_iff]
          rcases hp' with h' | h'
          · exact ⟨e ▸ ((hi.at hg h').1).1, .inr (.inr (.inl h'))⟩
          · exact ⟨e ▸ ((hi.at hg h').1).1, .inr (.inr (.inr (.inl h')))⟩
        · rw [holdsBox_iff]
          exact ⟨((hi.at hf hp).1).1, .inr (.inr (.inr (.inl hp)))⟩
      show s.popped + 1 < _
      omega
    · have hgf : g ≠ f := by
        intro e
        rw [e, hpf] at hp'
        cases hp'
      rw [hpg g hgf] at hp'
      exact h2.get_inv g hg hp' g' hg'
  case call | hgetLoop | hgetLocked | ngetChk | ngetAdv =>
    rename_i hp
    refine h2.step_outside rfl rfl rfl rfl (hp ▸ rfl) ?_
    split <;> rfl
  case hgetChk | ngetLoop =>
    rename_i hp
    refine h2.step_outside rfl rfl rfl rfl (hp ▸ rfl) ?_
    split
    · rfl
    · split <;> rfl
  all_goals
    rename_i hp
    exact h2.step_outside rfl rfl rfl rfl (hp ▸ rfl) rfl

theorem inv12_reachable {c : Cfg} (hn : 0 < c.n) {s : State} (hr : Reachable c s) : Inv c s ∧ Inv2 c s :=
  reachable_inv (Inv := fun s => Inv c s ∧ Inv2 c s) ⟨inv_init c, inv2_init hn⟩
    (fun _ _ _ h hs => ⟨inv_step h.1 hs, inv2_step h.1 h.2 hs⟩) hr

/-- when the source lock is held, the window lags the chain only while the holder is about to
    put the box it has just linked -/
theorem linked_le_put {c : Cfg} {s : State} (hi : Inv c s) :
    s.linked ≤ s.put ∨ ∃ h, h < c.n ∧ (s.forks h).pc = .wPut ∧ s.put + 1 = s.linked ∧ s.linked = (s.forks h).inc + 2 := by
  cases hl : s.lock with
  | none =>
    have := hi.quiet hl
    exact .inl (by omega)
  | some h =>
    obtain ⟨hh, hlk⟩ := hi.lock_lt h hl
    cases hpc : (s.forks h).pc
    case hChk | hPull | hRel | hRelStop | wChk | wPull | wRel =>
      have := (hi.forks h hh).quiet (by rw [hpc]; rfl)
      exact .inl (by omega)
    case hPut | hSet =>
      obtain ⟨-, -, -, h0, -⟩ := hi.at hh hpc
      exact .inl (by omega)
    case wLink =>
      obtain ⟨-, -, -, -, hpl, -⟩ := hi.at hh hpc
      exact .inl (Nat.le_of_eq hpl.symm)
    case wPut =>
      obtain ⟨-, -, -, -, hp1, h2⟩ := hi.at hh hpc
      exact .inr ⟨h, hh, hpc, hp1, h2⟩
    all_goals
      rw [hpc] at hlk
      cases hlk

theorem get_own {c : Cfg} {s : State} (hi : Inv c s) (h2 : Inv2 c s) {f : Nat} (hf : f < c.n)
    (hp : (s.forks f).pc = .bGet) :
    (s.forks f).cur = some s.popped ∧ s.popped + 1 = (s.forks f).inc ∧ s.popped < s.put := by
  obtain ⟨hown, hall⟩ := h2.pops_own hf hp
  obtain ⟨hcur, -, -, hle⟩ := (hi.at hf hp).1
  refine ⟨hcur.trans (congrArg some (by omega)), hown, ?_⟩
  rcases linked_le_put hi with h | ⟨h, hh, -, h3, h4⟩
  · omega
  · have := hall h hh
    omega

end Tee
