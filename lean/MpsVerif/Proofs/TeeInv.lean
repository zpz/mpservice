import MpsVerif.Proofs.TeeStep
/-! Safety invariants of the `tee` model (layer 1: lock phases, fork-local facts, endings): `Inv`,
    the same facts read by program point (`At`), and how a step of one fork preserves them. -/
namespace Tee

@[simp] theorem setFork_same (s : State) (f : Nat) (fk : Fork) : (setFork s f fk).forks f = fk := by
  simp [setFork]
theorem setFork_ne (s : State) {f g : Nat} (fk : Fork) (h : g ≠ f) : (setFork s f fk).forks g = s.forks g := by
  simp [setFork, h]
@[simp] theorem setFork_pulled (s : State) (f : Nat) (fk : Fork) : (setFork s f fk).pulled = s.pulled := rfl
@[simp] theorem setFork_raised (s : State) (f : Nat) (fk : Fork) : (setFork s f fk).raised = s.raised := rfl
@[simp] theorem setFork_endPulls (s : State) (f : Nat) (fk : Fork) : (setFork s f fk).endPulls = s.endPulls := rfl
@[simp] theorem setFork_boxes (s : State) (f : Nat) (fk : Fork) : (setFork s f fk).boxes = s.boxes := rfl
@[simp] theorem setFork_linked (s : State) (f : Nat) (fk : Fork) : (setFork s f fk).linked = s.linked := rfl
@[simp] theorem setFork_put (s : State) (f : Nat) (fk : Fork) : (setFork s f fk).put = s.put := rfl
@[simp] theorem setFork_popped (s : State) (f : Nat) (fk : Fork) : (setFork s f fk).popped = s.popped := rfl
@[simp] theorem setFork_cnt (s : State) (f : Nat) (fk : Fork) : (setFork s f fk).cnt = s.cnt := rfl
@[simp] theorem setFork_lock (s : State) (f : Nat) (fk : Fork) : (setFork s f fk).lock = s.lock := rfl

/-- program points inside the source-lock region -/
def Pc.locked : Pc → Bool
  | .hChk | .hPull | .hPut | .hSet | .hRel | .hRelStop | .wChk | .wPull | .wLink | .wPut | .wRel => true
  | _ => false

/-- program points of the first-element path (the fork has not obtained `head` yet) -/
def Pc.fresh : Pc → Bool
  | .hLoop | .hAcq | .hChk | .hPull | .hPut | .hSet | .hRel | .hRelStop | .hNext => true
  | _ => false

/-- the fork works on box `cur` and has not counted it yet -/
def Pc.atBox : Pc → Bool
  | .wLoop | .wAcq | .wChk | .wPull | .wLink | .wPut | .wRel | .bAcq | .bInc | .bIncW => true
  | _ => false

/-- the fork has counted box `cur` and not yet advanced -/
def Pc.postInc : Pc → Bool
  | .bCmp | .bGet | .bRel | .adv => true
  | _ => false

/-- the fork is between calls or at the first test of a call -/
def Pc.between : Pc → Bool
  | .idle | .chkHead => true
  | _ => false

/-- the box is known not to be the terminal exception box -/
def Pc.notExc : Pc → Bool
  | .wAcq | .wChk | .wPull | .wLink | .wPut => true
  | _ => false

/-- the fork has settled what follows its box -/
def Pc.seen : Pc → Bool
  | .wRel | .bAcq | .bInc | .bIncW | .bCmp | .bGet | .bRel | .adv => true
  | _ => false

/-- shared counters agree (no box is half-way published) -/
def Pc.quiet : Pc → Bool
  | .hChk | .hPull | .hRel | .hRelStop | .wChk | .wPull | .wRel => true
  | _ => false

theorem quiet_locked (p : Pc) (h : p.quiet = true) : p.locked = true := by
  cases p
  case hChk | hPull | hRel | hRelStop | wChk | wPull | wRel => rfl
  all_goals cases h

/-- the source is known to be exhausted after exactly `m` elements -/
def EndClean (c : Cfg) (s : State) (m : Nat) : Prop :=
  c.fail = false ∧ m = c.len ∧ s.pulled = c.len ∧ 0 < s.endPulls

/-- what `self.next` may be between two calls: the next reachable box, or `None` at a clean end -/
def CurOk (c : Cfg) (s : State) (fk : Fork) : Prop :=
  (∀ j, fk.cur = some j → j = fk.inc ∧ j < s.linked) ∧ (fk.cur = none → EndClean c s fk.inc)

structure FInv (c : Cfg) (s : State) (f : Nat) : Prop where
  out_range : (s.forks f).out = List.range (s.forks f).out.length
  locked_own : (s.forks f).pc.locked = true → s.lock = some f
  fresh : (s.forks f).pc.fresh = true →
    (s.forks f).st = false ∧ (s.forks f).cur = none ∧ (s.forks f).inc = 0 ∧ (s.forks f).out = []
  betw0 : (s.forks f).pc.between = true → (s.forks f).st = false →
    (s.forks f).cur = none ∧ (s.forks f).inc = 0 ∧ (s.forks f).out = []
  betw1 : (s.forks f).pc.between = true → (s.forks f).st = true →
    (s.forks f).out.length = (s.forks f).inc ∧ 0 < (s.forks f).inc ∧ CurOk c s (s.forks f)
  atBox : (s.forks f).pc.atBox = true →
    (s.forks f).cur = some (s.forks f).inc ∧ (s.forks f).out.length = (s.forks f).inc ∧ (s.forks f).inc < s.linked
  postInc : (s.forks f).pc.postInc = true →
    (s.forks f).cur = some ((s.forks f).inc - 1) ∧ 0 < (s.forks f).inc ∧
      (s.forks f).out.length + 1 = (s.forks f).inc ∧ (s.forks f).inc ≤ s.linked
  notExc : (s.forks f).pc.notExc = true → (s.forks f).inc < c.len
  seen : (s.forks f).pc.seen = true → ∀ j, (s.forks f).cur = some j →
    (j + 1 < s.linked ∨ c.len ≤ j ∨ EndClean c s (j + 1))
  quiet : (s.forks f).pc.quiet = true → s.linked = s.boxes ∧ s.put = s.boxes
  hPull : (s.forks f).pc = .hPull → s.linked = 0
  hPut : (s.forks f).pc = .hPut → s.boxes = 1 ∧ s.linked = 0 ∧ s.put = 0
  hSet : (s.forks f).pc = .hSet → s.boxes = 1 ∧ s.linked = 0 ∧ s.put = 1
  hRel : (s.forks f).pc = .hRel → 0 < s.linked
  hRelStop : (s.forks f).pc = .hRelStop → EndClean c s 0
  hNext : (s.forks f).pc = .hNext → 0 < s.linked
  wPull : (s.forks f).pc = .wPull → s.linked = (s.forks f).inc + 1
  wLink : (s.forks f).pc = .wLink →
    s.boxes = s.linked + 1 ∧ s.put = s.linked ∧ s.linked = (s.forks f).inc + 1
  wPut : (s.forks f).pc = .wPut →
    s.boxes = s.linked ∧ s.put + 1 = s.linked ∧ s.linked = (s.forks f).inc + 2
  ret : ∀ j, (s.forks f).pc = .ret j →
    (s.forks f).st = true ∧ (s.forks f).inc = j + 1 ∧ (s.forks f).out.length = j ∧ j < c.len ∧ CurOk c s (s.forks f)
  retExc : (s.forks f).pc = .retExc →
    (s.forks f).inc = c.len + 1 ∧ (s.forks f).out.length = c.len ∧ c.fail = true ∧ s.raised = true
  retStop : (s.forks f).pc = .retStop →
    EndClean c s (s.forks f).inc ∧ (s.forks f).out.length = (s.forks f).inc
  done : (s.forks f).pc = .done →
    ((s.forks f).fin = some .stop ∧ EndClean c s (s.forks f).inc ∧ (s.forks f).out.length = c.len) ∨
    ((s.forks f).fin = some .exc ∧ c.fail = true ∧ s.raised = true ∧ (s.forks f).out.length = c.len ∧
      (s.forks f).inc = c.len + 1)
  notdone : (s.forks f).pc ≠ .done → (s.forks f).fin = none
  inc_le : (s.forks f).inc ≤ s.linked
  chk_cur : (s.forks f).pc = .chkHead → (s.forks f).cur = none
  out_le : (s.forks f).out.length ≤ c.len
  inc_out : (s.forks f).inc ≤ (s.forks f).out.length + 1

structure Inv (c : Cfg) (s : State) : Prop where
  pulled_le : s.pulled ≤ c.len
  boxes_eq : s.boxes = s.pulled + (if s.raised = true then 1 else 0)
  raised_imp : s.raised = true → c.fail = true ∧ s.pulled = c.len
  ends_imp : 0 < s.endPulls → c.fail = false ∧ s.pulled = c.len
  win : s.popped ≤ s.put ∧ s.put ≤ s.popped + c.bs
  shape : s.linked ≤ s.boxes ∧ s.boxes ≤ s.linked + 1 ∧ s.put ≤ s.boxes ∧ s.boxes ≤ s.put + 1
  lock_lt : ∀ h, s.lock = some h → h < c.n ∧ (s.forks h).pc.locked = true
  quiet : s.lock = none → s.linked = s.boxes ∧ s.put = s.boxes
  forks : ∀ f, f < c.n → FInv c s f

variable {c : Cfg} {s s' : State} {f : Nat} {fk : Fork} {p : Pc}

abbrev Fresh (fk : Fork) : Prop := fk.st = false ∧ fk.cur = none ∧ fk.inc = 0 ∧ fk.out = []

abbrev Betw (c : Cfg) (s : State) (fk : Fork) : Prop :=
  (fk.st = false → fk.cur = none ∧ fk.inc = 0 ∧ fk.out = []) ∧
  (fk.st = true → fk.out.length = fk.inc ∧ 0 < fk.inc ∧ CurOk c s fk)

abbrev AtBox (s : State) (fk : Fork) : Prop :=
  fk.cur = some fk.inc ∧ fk.out.length = fk.inc ∧ fk.inc < s.linked

abbrev PostInc (s : State) (fk : Fork) : Prop :=
  fk.cur = some (fk.inc - 1) ∧ 0 < fk.inc ∧ fk.out.length + 1 = fk.inc ∧ fk.inc ≤ s.linked

/-- what follows box `cur` is settled: the next box is linked, or `cur` is the terminal box, or the
    source ended cleanly right after it -/
abbrev Seen (c : Cfg) (s : State) (fk : Fork) : Prop :=
  ∀ j, fk.cur = some j → (j + 1 < s.linked ∨ c.len ≤ j ∨ EndClean c s (j + 1))

abbrev Quiet (s : State) : Prop := s.linked = s.boxes ∧ s.put = s.boxes

/-- what is known of fork `f` with local state `fk` while it stands at program point `p` -/
def At (c : Cfg) (s : State) (f : Nat) (fk : Fork) : Pc → Prop
  | .idle => Betw c s fk
  | .chkHead => Betw c s fk ∧ fk.cur = none
  | .hLoop | .hAcq => Fresh fk
  | .hChk => Fresh fk ∧ s.lock = some f ∧ Quiet s
  | .hPull => Fresh fk ∧ s.lock = some f ∧ Quiet s ∧ s.linked = 0
  | .hPut => Fresh fk ∧ s.lock = some f ∧ s.boxes = 1 ∧ s.linked = 0 ∧ s.put = 0
  | .hSet => Fresh fk ∧ s.lock = some f ∧ s.boxes = 1 ∧ s.linked = 0 ∧ s.put = 1
  | .hRel => Fresh fk ∧ s.lock = some f ∧ Quiet s ∧ 0 < s.linked
  | .hRelStop => Fresh fk ∧ s.lock = some f ∧ Quiet s ∧ EndClean c s 0
  | .hNext => Fresh fk ∧ 0 < s.linked
  | .wLoop => AtBox s fk
  | .wAcq => AtBox s fk ∧ fk.inc < c.len
  | .wChk => AtBox s fk ∧ fk.inc < c.len ∧ s.lock = some f ∧ Quiet s
  | .wPull => AtBox s fk ∧ fk.inc < c.len ∧ s.lock = some f ∧ Quiet s ∧ s.linked = fk.inc + 1
  | .wLink => AtBox s fk ∧ fk.inc < c.len ∧ s.lock = some f ∧
      s.boxes = s.linked + 1 ∧ s.put = s.linked ∧ s.linked = fk.inc + 1
  | .wPut => AtBox s fk ∧ fk.inc < c.len ∧ s.lock = some f ∧
      s.boxes = s.linked ∧ s.put + 1 = s.linked ∧ s.linked = fk.inc + 2
  | .wRel => AtBox s fk ∧ Seen c s fk ∧ s.lock = some f ∧ Quiet s
  | .bAcq | .bInc | .bIncW => AtBox s fk ∧ Seen c s fk
  | .bCmp | .bGet | .bRel | .adv => PostInc s fk ∧ Seen c s fk
  | .ret j => fk.st = true ∧ fk.inc = j + 1 ∧ fk.out.length = j ∧ j < c.len ∧ CurOk c s fk
  | .retExc => fk.inc = c.len + 1 ∧ fk.out.length = c.len ∧ c.fail = true ∧ s.raised = true
  | .retStop => EndClean c s fk.inc ∧ fk.out.length = fk.inc
  | .done =>
    (fk.fin = some .stop ∧ EndClean c s fk.inc ∧ fk.out.length = c.len) ∨
    (fk.fin = some .exc ∧ c.fail = true ∧ s.raised = true ∧ fk.out.length = c.len ∧ fk.inc = c.len + 1)

/-- `FInv` read by program point -/
def FOk (c : Cfg) (s : State) (f : Nat) (fk : Fork) : Prop :=
  (fk.out = List.range fk.out.length ∧ fk.out.length ≤ c.len ∧ fk.inc ≤ fk.out.length + 1 ∧ fk.inc ≤ s.linked) ∧
  (fk.pc ≠ .done → fk.fin = none) ∧ At c s f fk fk.pc

theorem FInv.ok (h : FInv c s f) : FOk c s f (s.forks f) := by
  obtain ⟨out_range, locked, fresh, betw0, betw1, atBox, postInc, notExc, seen, quiet, hPull, hPut, hSet, hRel,
    hRelStop, hNext, wPull, wLink, wPut, ret, retExc, retStop, done, notdone, inc_le, chk_cur, out_le, inc_out⟩ := h
  refine ⟨⟨out_range, out_le, inc_out, inc_le⟩, notdone, ?_⟩
  generalize (s.forks f).pc = p at *
  cases p
  case idle => exact ⟨betw0 rfl, betw1 rfl⟩
  case chkHead => exact ⟨⟨betw0 rfl, betw1 rfl⟩, chk_cur rfl⟩
  case hLoop | hAcq => exact fresh rfl
  case hChk => exact ⟨fresh rfl, locked rfl, quiet rfl⟩
  case hPull => exact ⟨fresh rfl, locked rfl, quiet rfl, hPull rfl⟩
  case hPut => exact ⟨fresh rfl, locked rfl, hPut rfl⟩
  case hSet => exact ⟨fresh rfl, locked rfl, hSet rfl⟩
  case hRel => exact ⟨fresh rfl, locked rfl, quiet rfl, hRel rfl⟩
  case hRelStop => exact ⟨fresh rfl, locked rfl, quiet rfl, hRelStop rfl⟩
  case hNext => exact ⟨fresh rfl, hNext rfl⟩
  case wLoop => exact atBox rfl
  case wAcq => exact ⟨atBox rfl, notExc rfl⟩
  case wChk => exact ⟨atBox rfl, notExc rfl, locked rfl, quiet rfl⟩
  case wPull => exact ⟨atBox rfl, notExc rfl, locked rfl, quiet rfl, wPull rfl⟩
  case wLink => exact ⟨atBox rfl, notExc rfl, locked rfl, wLink rfl⟩
  case wPut => exact ⟨atBox rfl, notExc rfl, locked rfl, wPut rfl⟩
  case wRel => exact ⟨atBox rfl, seen rfl, locked rfl, quiet rfl⟩
  case bAcq | bInc | bIncW => exact ⟨atBox rfl, seen rfl⟩
  case bCmp | bGet | bRel | adv => exact ⟨postInc rfl, seen rfl⟩
  case ret j => exact ret j rfl
  case retExc => exact retExc rfl
  case retStop => exact retStop rfl
  case done => exact done rfl

theorem FOk.finv (h : FOk c s f (s.forks f)) : FInv c s f := by
  obtain ⟨⟨c1, c2, c3, c4⟩, hn, ha⟩ := h
  have hat : ∀ {p}, (s.forks f).pc = p → At c s f (s.forks f) p := fun hq => hq ▸ ha
  generalize hp : (s.forks f).pc = p at ha
  refine {
    out_range := c1, out_le := c2, inc_out := c3, inc_le := c4, notdone := hn
    chk_cur := fun hq => (hat hq).2
    hPull := fun hq => (hat hq).2.2.2
    hPut := fun hq => (hat hq).2.2
    hSet := fun hq => (hat hq).2.2
    hRel := fun hq => (hat hq).2.2.2
    hRelStop := fun hq => (hat hq).2.2.2
    hNext := fun hq => (hat hq).2
    wPull := fun hq => (hat hq).2.2.2.2
    wLink := fun hq => (hat hq).2.2.2
    wPut := fun hq => (hat hq).2.2.2
    ret := fun j hq => hat hq
    retExc := fun hq => hat hq
    retStop := fun hq => hat hq
    done := fun hq => hat hq
    locked_own := ?locked_own, fresh := ?fresh, betw0 := ?betw0, betw1 := ?betw1, atBox := ?atBox,
    postInc := ?postInc, notExc := ?notExc, seen := ?seen, quiet := ?quiet }
  all_goals
    intro hq
    rw [hp] at hq
    cases p
  case locked_own.hChk | locked_own.hPull | locked_own.hPut | locked_own.hSet | locked_own.hRel |
    locked_own.hRelStop => exact ha.2.1
  case locked_own.wChk | locked_own.wPull | locked_own.wLink | locked_own.wPut | locked_own.wRel => exact ha.2.2.1
  case fresh.hLoop | fresh.hAcq => exact ha
  case fresh.hChk | fresh.hPull | fresh.hPut | fresh.hSet | fresh.hRel | fresh.hRelStop | fresh.hNext => exact ha.1
  case betw0.idle => exact ha.1
  case betw0.chkHead => exact ha.1.1
  case betw1.idle => exact ha.2
  case betw1.chkHead => exact ha.1.2
  case atBox.wLoop => exact ha
  case atBox.wAcq | atBox.wChk | atBox.wPull | atBox.wLink | atBox.wPut | atBox.wRel | atBox.bAcq | atBox.bInc |
    atBox.bIncW => exact ha.1
  case postInc.bCmp | postInc.bGet | postInc.bRel | postInc.adv => exact ha.1
  case notExc.wAcq => exact ha.2
  case notExc.wChk | notExc.wPull | notExc.wLink | notExc.wPut => exact ha.2.1
  case seen.wRel => exact ha.2.1
  case seen.bAcq | seen.bInc | seen.bIncW | seen.bCmp | seen.bGet | seen.bRel | seen.adv => exact ha.2
  case quiet.hChk => exact ha.2.2
  case quiet.hPull | quiet.hRel | quiet.hRelStop => exact ha.2.2.1
  case quiet.wChk | quiet.wRel => exact ha.2.2.2
  case quiet.wPull => exact ha.2.2.2.1
  all_goals cases hq

/-- what a step may do to the shared state under the feet of a fork that does not hold the source lock -/
structure Grows (c : Cfg) (s s' : State) : Prop where
  linked : s.linked ≤ s'.linked
  raised : s.raised = true → s'.raised = true
  pulled : s.pulled = c.len → s'.pulled = c.len
  ends : s.endPulls ≤ s'.endPulls

/-- the step leaves alone what the source lock protects -/
def Keeps (s s' : State) : Prop :=
  s'.lock = s.lock ∧ s'.linked = s.linked ∧ s'.boxes = s.boxes ∧ s'.put = s.put

theorem EndClean.mono {m : Nat} (h : EndClean c s m) (hg : Grows c s s') :
    EndClean c s' m :=
  ⟨h.1, h.2.1, hg.pulled h.2.2.1, Nat.lt_of_lt_of_le h.2.2.2 hg.ends⟩

theorem CurOk.mono (h : CurOk c s fk) (hg : Grows c s s') : CurOk c s' fk :=
  ⟨fun j hj => ⟨(h.1 j hj).1, Nat.lt_of_lt_of_le (h.1 j hj).2 hg.linked⟩, fun hn => (h.2 hn).mono hg⟩

theorem Betw.mono (h : Betw c s fk) (hg : Grows c s s') : Betw c s' fk :=
  ⟨h.1, fun hs => ⟨(h.2 hs).1, (h.2 hs).2.1, (h.2 hs).2.2.mono hg⟩⟩

theorem AtBox.mono (h : AtBox s fk) (hl : s.linked ≤ s'.linked) : AtBox s' fk :=
  ⟨h.1, h.2.1, Nat.lt_of_lt_of_le h.2.2 hl⟩

theorem PostInc.mono (h : PostInc s fk) (hl : s.linked ≤ s'.linked) : PostInc s' fk :=
  ⟨h.1, h.2.1, h.2.2.1, Nat.le_trans h.2.2.2 hl⟩

theorem Seen.mono (h : Seen c s fk) (hg : Grows c s s') : Seen c s' fk :=
  fun j hj => (h j hj).imp (fun h => Nat.lt_of_lt_of_le h hg.linked) (Or.imp_right fun h => h.mono hg)

theorem At.frame {g : Nat} (h : At c s g fk p)
    (hg : Grows c s s') (hk : p.locked = true → Keeps s s') : At c s' g fk p := by
  cases p
  case idle => exact h.mono hg
  case chkHead => exact ⟨h.1.mono hg, h.2⟩
  case hLoop | hAcq => exact h
  case hNext => exact ⟨h.1, Nat.lt_of_lt_of_le h.2 hg.linked⟩
  case wLoop => exact h.mono hg.linked
  case wAcq => exact ⟨h.1.mono hg.linked, h.2⟩
  case bAcq | bInc | bIncW => exact ⟨h.1.mono hg.linked, h.2.mono hg⟩
  case bCmp | bGet | bRel | adv => exact ⟨h.1.mono hg.linked, h.2.mono hg⟩
  case ret j => exact ⟨h.1, h.2.1, h.2.2.1, h.2.2.2.1, h.2.2.2.2.mono hg⟩
  case retExc => exact ⟨h.1, h.2.1, h.2.2.1, hg.raised h.2.2.2⟩
  case retStop => exact ⟨h.1.mono hg, h.2⟩
  case done =>
    exact h.imp (fun h => ⟨h.1, h.2.1.mono hg, h.2.2⟩) (fun h => ⟨h.1, h.2.1, hg.raised h.2.2.1, h.2.2.2⟩)
  case hRelStop =>
    obtain ⟨e1, e2, e3, e4⟩ := hk rfl
    exact ⟨h.1, e1 ▸ h.2.1, ⟨e2 ▸ e3 ▸ h.2.2.1.1, e4 ▸ e3 ▸ h.2.2.1.2⟩, h.2.2.2.mono hg⟩
  case wRel =>
    obtain ⟨e1, e2, e3, e4⟩ := hk rfl
    exact ⟨h.1.mono hg.linked, h.2.1.mono hg, e1 ▸ h.2.2.1, ⟨e2 ▸ e3 ▸ h.2.2.2.1, e4 ▸ e3 ▸ h.2.2.2.2⟩⟩
  all_goals
    obtain ⟨e1, e2, e3, e4⟩ := hk rfl
    simp only [At, AtBox, Quiet, e1, e2, e3, e4]
    exact h

/-- the clauses of `Inv` that speak of the shared counters only -/
def Glob (c : Cfg) (s : State) : Prop :=
  s.pulled ≤ c.len ∧ s.boxes = s.pulled + (if s.raised = true then 1 else 0) ∧
  (s.raised = true → c.fail = true ∧ s.pulled = c.len) ∧ (0 < s.endPulls → c.fail = false ∧ s.pulled = c.len) ∧
  (s.popped ≤ s.put ∧ s.put ≤ s.popped + c.bs) ∧
  (s.linked ≤ s.boxes ∧ s.boxes ≤ s.linked + 1 ∧ s.put ≤ s.boxes ∧ s.boxes ≤ s.put + 1)

theorem Inv.glob (h : Inv c s) : Glob c s :=
  ⟨h.pulled_le, h.boxes_eq, h.raised_imp, h.ends_imp, h.win, h.shape⟩

theorem Inv.boxes_eq_pulled (h : Inv c s) (hr : s.raised = false) : s.boxes = s.pulled := by
  have := h.boxes_eq
  rw [hr] at this
  exact this

theorem Inv.boxes_of_raised (h : Inv c s) (hr : s.raised = true) :
    s.boxes = s.pulled + 1 := by
  have := h.boxes_eq
  rw [hr] at this
  exact this

theorem Inv.linked_le (h : Inv c s) : s.linked ≤ c.len + 1 := by
  have h1 := h.boxes_eq
  have := h.pulled_le
  have := h.shape.1
  split at h1 <;> omega

theorem Inv.ok (h : Inv c s) (hf : f < c.n) : FOk c s f (s.forks f) :=
  (h.forks f hf).ok

theorem Inv.at (h : Inv c s) (hf : f < c.n) (hp : (s.forks f).pc = p) :
    At c s f (s.forks f) p :=
  hp ▸ (h.ok hf).2.2

theorem inv_init (c : Cfg) : Inv c init := by
  refine ⟨Nat.zero_le _, rfl, nofun, nofun, ⟨Nat.le_refl _, Nat.zero_le _⟩,
    ⟨Nat.le_refl _, Nat.zero_le _, Nat.le_refl _, Nat.zero_le _⟩, nofun, fun _ => ⟨rfl, rfl⟩, fun f _ => ?_⟩
  exact FOk.finv ⟨⟨rfl, Nat.zero_le _, Nat.zero_le _, Nat.le_refl _⟩, fun _ => rfl, fun _ => ⟨rfl, rfl, rfl⟩, nofun⟩

theorem Inv.step (hi : Inv c s) (hf : f < c.n)
    (hfs : s'.forks = (setFork s f fk).forks) (hglob : Glob c s') (hgrow : Grows c s s')
    (hkeep : ∀ h, h ≠ f → s.lock = some h → Keeps s s')
    (hlock : ∀ h, s'.lock = some h → (h = f ∧ fk.pc.locked = true) ∨ (h ≠ f ∧ s.lock = some h))
    (hquiet : s'.lock = none → Quiet s') (hself : FOk c s' f fk) : Inv c s' := by
  refine ⟨hglob.1, hglob.2.1, hglob.2.2.1, hglob.2.2.2.1, hglob.2.2.2.2.1, hglob.2.2.2.2.2, ?_, hquiet, ?_⟩
  · intro h hh
    rw [hfs]
    rcases hlock h hh with ⟨rfl, hl⟩ | ⟨hne, hl⟩
    · rw [setFork_same]
      exact ⟨hf, hl⟩
    · rw [setFork_ne _ _ hne]
      exact hi.lock_lt h hl
  · intro g hg
    apply FOk.finv
    rw [hfs]
    by_cases hgf : g = f
    · rw [hgf, setFork_same]
      exact hself
    · rw [setFork_ne _ _ hgf]
      have fi := hi.forks g hg
      have ho := fi.ok
      exact ⟨⟨ho.1.1, ho.1.2.1, ho.1.2.2.1, Nat.le_trans ho.1.2.2.2 hgrow.linked⟩, ho.2.1,
        ho.2.2.frame hgrow fun hl => hkeep g hgf (fi.locked_own hl)⟩

theorem FOk.move {fk' : Fork} (h : FOk c s f fk) (hp : fk.pc = p) (hnd : p ≠ .done) (hl : s.linked ≤ s'.linked)
    (hsame : fk'.out = fk.out ∧ fk'.inc = fk.inc ∧ fk'.fin = fk.fin) (ha : At c s' f fk' fk'.pc) :
    FOk c s' f fk' := by
  obtain ⟨e1, e2, e3⟩ := hsame
  refine ⟨?_, fun _ => e3 ▸ h.2.1 (hp ▸ hnd), ha⟩
  rw [e1, e2]
  exact ⟨h.1.1, h.1.2.1, h.1.2.2.1, Nat.le_trans h.1.2.2.2 hl⟩

theorem Grows.of_eq (h1 : s'.linked = s.linked := by rfl) (h2 : s'.raised = s.raised := by rfl)
    (h3 : s'.pulled = s.pulled := by rfl) (h4 : s'.endPulls = s.endPulls := by rfl) : Grows c s s' :=
  ⟨Nat.le_of_eq h1.symm, fun h => h2 ▸ h, fun h => h3 ▸ h, Nat.le_of_eq h4.symm⟩

theorem Inv.step_local (hi : Inv c s) (hf : f < c.n)
    (hl : (s.forks f).pc.locked = true → fk.pc.locked = true) (hself : FOk c s f fk) :
    Inv c (setFork s f fk) := by
  refine hi.step hf rfl hi.glob .of_eq (fun _ _ _ => ⟨rfl, rfl, rfl, rfl⟩) ?_ hi.quiet hself
  intro h hh
  by_cases hhf : h = f
  · exact Or.inl ⟨hhf, hl (hhf ▸ (hi.lock_lt h hh).2)⟩
  · exact Or.inr ⟨hhf, hh⟩

/-- The side conditions default to the common case: `p` is outside the lock region, the ghost
    fields stay, and `p` is not `done`. -/
theorem Inv.move_local (hi : Inv c s) (hf : f < c.n) (hp : (s.forks f).pc = p) (ha : At c s f fk fk.pc)
    (hl : p.locked = true → fk.pc.locked = true := by nofun)
    (hsame : fk.out = (s.forks f).out ∧ fk.inc = (s.forks f).inc ∧ fk.fin = (s.forks f).fin := by
      exact ⟨rfl, rfl, rfl⟩)
    (hnd : p ≠ .done := by nofun) : Inv c (setFork s f fk) :=
  hi.step_local hf (hp ▸ hl) ((hi.ok hf).move hp hnd (Nat.le_refl _) hsame ha)

/-- A step of the fork that holds the source lock, or that takes the free lock: nobody else is
    in the lock region. -/
theorem Inv.move_locked (hi : Inv c s) (hf : f < c.n) (hp : (s.forks f).pc = p)
    (hfs : s'.forks = (setFork s f fk).forks) (hmine : s.lock = none ∨ s.lock = some f) (hglob : Glob c s')
    (hgrow : Grows c s s') (hnew : s'.lock = none ∧ Quiet s' ∨ s'.lock = some f ∧ fk.pc.locked = true)
    (ha : At c s' f fk fk.pc)
    (hsame : fk.out = (s.forks f).out ∧ fk.inc = (s.forks f).inc ∧ fk.fin = (s.forks f).fin := by
      exact ⟨rfl, rfl, rfl⟩)
    (hnd : p ≠ .done := by nofun) : Inv c s' := by
  refine hi.step hf hfs hglob hgrow ?_ ?_ ?_ ((hi.ok hf).move hp hnd hgrow.linked hsame ha)
  · intro h hne hl
    rcases hmine with hm | hm
    · rw [hm] at hl
      cases hl
    · rw [hm] at hl
      exact absurd (Option.some.inj hl).symm hne
  · intro h hh
    rcases hnew with ⟨hn, _⟩ | ⟨hs, hl⟩
    · rw [hn] at hh
      cases hh
    · rw [hs] at hh
      exact Or.inl ⟨(Option.some.inj hh).symm, hl⟩
  · intro hn
    rcases hnew with ⟨_, hq⟩ | ⟨hs, _⟩
    · exact hq
    · rw [hs] at hn
      cases hn

theorem Inv.set_win (h : Inv c s) {cn : Nat → Nat} {m : Nat} (hw : m ≤ s.put ∧ s.put ≤ m + c.bs) :
    Inv c { s with cnt := cn, popped := m } :=
  ⟨h.pulled_le, h.boxes_eq, h.raised_imp, h.ends_imp, hw, h.shape, h.lock_lt, h.quiet,
    fun _ hf => FOk.finv (h.ok hf)⟩

theorem Glob.pull (h : Glob c s) (hq : Quiet s) (hlt : s.pulled < c.len)
    (hr : s.raised = false) {fs : Nat → Fork} :
    Glob c { s with forks := fs, pulled := s.pulled + 1, boxes := s.boxes + 1 } := by
  obtain ⟨-, h2, -, h4, h5, h6⟩ := h
  refine ⟨hlt, ?_, ?_, ?_, h5, ?_⟩
  · show s.boxes + 1 = s.pulled + 1 + (if s.raised = true then 1 else 0)
    omega
  · intro hr'
    rw [hr] at hr'
    cases hr'
  · intro he
    have := (h4 he).2
    omega
  · show s.linked ≤ s.boxes + 1 ∧ s.boxes + 1 ≤ s.linked + 1 ∧ s.put ≤ s.boxes + 1 ∧ s.boxes + 1 ≤ s.put + 1
    omega

theorem Glob.srcEnd (h : Glob c s) (hp : s.pulled = c.len) (hfail : c.fail = false)
    {fs : Nat → Fork} : Glob c { s with forks := fs, endPulls := s.endPulls + 1 } :=
  ⟨h.1, h.2.1, h.2.2.1, fun _ => ⟨hfail, hp⟩, h.2.2.2.2⟩

theorem Glob.srcExc (h : Glob c s) (hq : Quiet s) (hp : s.pulled = c.len)
    (hfail : c.fail = true) (hr : s.raised = false) {fs : Nat → Fork} :
    Glob c { s with forks := fs, raised := true, boxes := s.boxes + 1 } := by
  obtain ⟨h1, h2, -, h4, h5, h6⟩ := h
  refine ⟨h1, ?_, fun _ => ⟨hfail, hp⟩, h4, h5, ?_⟩
  · rw [hr] at h2
    show s.boxes + 1 = s.pulled + 1
    exact congrArg (· + 1) h2
  · show s.linked ≤ s.boxes + 1 ∧ s.boxes + 1 ≤ s.linked + 1 ∧ s.put ≤ s.boxes + 1 ∧ s.boxes + 1 ≤ s.put + 1
    omega

theorem Glob.put (h : Glob c s) (hw : s.put < s.popped + c.bs) (hb : s.put < s.boxes)
    {fs : Nat → Fork} : Glob c { s with forks := fs, put := s.put + 1 } := by
  obtain ⟨h1, h2, h3, h4, h5, h6⟩ := h
  refine ⟨h1, h2, h3, h4, ⟨?_, hw⟩, ?_⟩
  · show s.popped ≤ s.put + 1
    omega
  · show s.linked ≤ s.boxes ∧ s.boxes ≤ s.linked + 1 ∧ s.put + 1 ≤ s.boxes ∧ s.boxes ≤ s.put + 1 + 1
    omega

theorem Glob.link (h : Glob c s) {l : Nat} (h1 : l ≤ s.boxes) (h2 : s.boxes ≤ l + 1)
    {fs : Nat → Fork} : Glob c { s with forks := fs, linked := l } :=
  ⟨h.1, h.2.1, h.2.2.1, h.2.2.2.1, h.2.2.2.2.1, h1, h2, h.2.2.2.2.2.2.2⟩

end Tee
