import MpsVerif.Model.ProcOutcome
/-! Invariant and measure of the thread variant (`ProcOutcome.Thr`). -/
namespace ProcOutcome.Thr

def finalAns (o : Outcome) (a : Acc) : Ans :=
  match a with
  | .done => .flag true
  | .exitcode => .code none
  | _ => ansOfFut a (threadFut o) none

structure Inv (c : Cfg) (s : State) : Prop where
  fut : s.fut = if s.tpc = .run then none else some (threadFut c.outcome)
  answered : ∀ a r, (a, r) ∈ s.answers → pendingAns a = some r ∨ r = finalAns c.outcome a

theorem inv_init (c : Cfg) : Inv c init :=
  ⟨rfl, fun _ _ hm => nomatch hm⟩

theorem fut_of_canAnswer {s : State} {a : Acc} (hcan : canAnswer a s = true)
    (hb : pendingAns a = none) : s.fut.isSome = true := by
  cases a with
  | join | result | exception => exact ((Bool.and_eq_true _ _).mp hcan).2
  | wait | asCompleted => exact hcan
  | done | exitcode => cases hb

theorem answer_ok {c : Cfg} {s : State} {a : Acc} (hi : Inv c s) (hcan : canAnswer a s = true) :
    pendingAns a = some (answer a s) ∨ answer a s = finalAns c.outcome a := by
  have hfut : pendingAns a = none → s.fut = some (threadFut c.outcome) := fun hb => by
    have hsome := fut_of_canAnswer hcan hb
    have hf := hi.fut
    split at hf
    · rw [hf] at hsome
      cases hsome
    · exact hf
  cases a
  case done => cases ht : s.tpc <;> simp [answer, finalAns, pendingAns, ht]
  case exitcode => exact .inl rfl
  all_goals
    right
    simp only [answer, hfut rfl]
    rfl

theorem inv_step {c : Cfg} {s s' : State} {a : Act} (hi : Inv c s) (h : step c s a = some s') :
    Inv c s' := by
  cases a
  all_goals obtain ⟨hg, rfl⟩ := Option.ite_some_none_eq_some.mp h
  case tSet => exact ⟨rfl, hi.answered⟩
  case tEnd =>
    have hf := hi.fut
    rw [hg] at hf
    exact ⟨hf, hi.answered⟩
  case ask =>
    refine ⟨hi.fut, fun a' r hm => ?_⟩
    rcases List.mem_append.mp hm with hm | hm
    · exact hi.answered a' r hm
    · obtain ⟨rfl, rfl⟩ := Prod.mk.inj (List.mem_singleton.mp hm)
      exact answer_ok hi hg

theorem inv_reachable (c : Cfg) {s : State} (hr : Reachable c s) : Inv c s :=
  Core.invariant_reach (fun _ _ _ hi h => inv_step hi h) (inv_init c) hr

def trank : TPc → Nat
  | .run => 2 | .set => 1 | .dead => 0

def isAsk : Act → Bool
  | .ask _ => true
  | _ => false

theorem mu_step {c : Cfg} {s s' : State} {a : Act} (h : step c s a = some s') :
    trank s'.tpc + (if !isAsk a then 1 else 0) ≤ trank s.tpc := by
  cases a
  all_goals obtain ⟨hg, rfl⟩ := Option.ite_some_none_eq_some.mp h
  case tSet =>
    rw [hg]
    exact Nat.le_refl 2
  case tEnd =>
    rw [hg]
    exact Nat.le_refl 1
  case ask => exact Nat.le_refl _

theorem work_le_measure (c : Cfg) (as : List Act) (s s' : State)
    (hr : Core.run (step c) s as = some s') :
    (as.filter (fun a => !isAsk a)).length + trank s'.tpc ≤ trank s.tpc := by
  rw [← List.countP_eq_length_filter]
  exact Core.countP_le_measure (fun s => trank s.tpc) _ (fun _ => True) (fun _ => True)
    (fun _ _ _ _ _ _ => trivial) (fun _ _ _ _ _ h => mu_step h) as s s' trivial
    (fun _ _ => trivial) hr

end ProcOutcome.Thr
