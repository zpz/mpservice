import MpsVerif.Proofs.BatchInv
/-!
Conservation of requests in the batching-worker model: every request that arrived is, at any
time, in exactly one place — still on `q_in`, in flight inside exactly one worker (held by its
collector, in its buffer, in the batch under assembly, in a released batch that has not entered
`call`), in exactly one recorded call, or short-circuited to `q_out`.
-/
namespace Batch

def reqsOf : List Item → List Req
  | [] => []
  | .req r :: t => r :: reqsOf t
  | .stop :: t => reqsOf t

@[simp] theorem reqsOf_nil : reqsOf [] = [] := rfl
@[simp] theorem reqsOf_cons_req (r : Req) (t : List Item) : reqsOf (.req r :: t) = r :: reqsOf t := rfl
@[simp] theorem reqsOf_cons_stop (t : List Item) : reqsOf (.stop :: t) = reqsOf t := rfl
@[simp] theorem reqsOf_append (a b : List Item) : reqsOf (a ++ b) = reqsOf a ++ reqsOf b := by
  induction a with
  | nil => rfl
  | cons z t ih => cases z <;> simp [ih]

def heldOf : CPh → List Req
  | .have (.req r) => [r]
  | _ => []

/-- the batch of a released entry that has not entered `call` yet -/
def qb (e : PEnt) : List Req := if e.st = .queued then e.batch else []

def inflight (w : W) : List Req := heldOf w.cph ++ reqsOf w.buf ++ batchOf w.gph ++ w.pd.flatMap qb

def cntU (u : Nat) (l : List Req) : Nat := l.countP (fun r => r.uid == u)

@[simp] theorem cntU_nil (u : Nat) : cntU u [] = 0 := rfl
@[simp] theorem cntU_cons (u : Nat) (r : Req) (l : List Req) :
    cntU u (r :: l) = cntU u l + (if r.uid = u then 1 else 0) := by
  simp [cntU, List.countP_cons]
@[simp] theorem cntU_append (u : Nat) (a b : List Req) : cntU u (a ++ b) = cntU u a + cntU u b := by
  simp [cntU]

def isShort (u : Nat) : Out → Bool
  | .res u' .preErr => u' == u
  | .res u' .inErr => u' == u
  | _ => false

def shortCnt (u : Nat) (out : List Out) : Nat := out.countP (isShort u)

@[simp] theorem shortCnt_append (u : Nat) (a b : List Out) : shortCnt u (a ++ b) = shortCnt u a + shortCnt u b := by
  simp [shortCnt]
@[simp] theorem shortCnt_sentinel (u i : Nat) : shortCnt u [.sentinel i] = 0 := by simp [shortCnt, isShort]
@[simp] theorem shortCnt_short (u : Nat) (r : Req) :
    shortCnt u [.res r.uid (shortRes r.kind)] = if r.uid = u then 1 else 0 := by
  cases hk : r.kind <;> simp [shortCnt, isShort, shortRes, List.countP_cons]
theorem isShort_outsOf (u : Nat) {b : List Req} {cid : Nat} {ok : Bool} :
    ∀ o ∈ outsOf b cid ok, isShort u o = false := by
  intro o ho
  obtain ⟨r, _, rfl⟩ := List.mem_map.mp ho
  cases ok <;> rfl
@[simp] theorem shortCnt_outsOf (u : Nat) (b : List Req) (cid : Nat) (ok : Bool) :
    shortCnt u (outsOf b cid ok) = 0 :=
  List.countP_eq_zero.mpr fun o ho => by simp [isShort_outsOf u o ho]

def wsum : Nat → (Nat → Nat) → Nat
  | 0, _ => 0
  | k + 1, f => wsum k f + f k

theorem wsum_mono {k : Nat} {f g : Nat → Nat} (h : ∀ j, j < k → g j ≤ f j) :
    wsum k g ≤ wsum k f ∧ ∀ i, i < k → g i < f i → wsum k g < wsum k f := by
  induction k with
  | zero => exact ⟨Nat.le_refl _, fun i hi => absurd hi (Nat.not_lt_zero i)⟩
  | succ k ih =>
    obtain ⟨h1, h2⟩ := ih fun j hj => h j (by omega)
    have hk := h k (by omega)
    simp only [wsum]
    refine ⟨by omega, fun i hi hlt => ?_⟩
    by_cases hik : i = k
    · subst hik
      omega
    · have := h2 i (by omega) hlt
      omega

theorem wsum_congr {k : Nat} {f g : Nat → Nat} (h : ∀ j, j < k → f j = g j) : wsum k f = wsum k g :=
  Nat.le_antisymm (wsum_mono fun j hj => Nat.le_of_eq (h j hj)).1
    (wsum_mono fun j hj => Nat.le_of_eq (h j hj).symm).1

theorem wsum_update {k : Nat} (f g : Nat → Nat) {i : Nat} (hi : i < k) (h : ∀ j, j ≠ i → g j = f j) :
    wsum k g + f i = wsum k f + g i := by
  induction k with
  | zero => omega
  | succ k ih =>
    simp only [wsum]
    by_cases hik : i = k
    · subst hik
      have : wsum i g = wsum i f := wsum_congr fun j hj => h j (by omega)
      omega
    · have := ih (by omega)
      have hk := h k (by omega)
      omega

theorem wsum_pos {k : Nat} {f : Nat → Nat} (h : 0 < wsum k f) : ∃ i, i < k ∧ 0 < f i := by
  induction k with
  | zero => cases h
  | succ k ih =>
    by_cases h0 : 0 < wsum k f
    · obtain ⟨i, hi, hp⟩ := ih h0
      exact ⟨i, by omega, hp⟩
    · rw [wsum] at h
      exact ⟨k, by omega, by omega⟩

theorem wsum_zero {k : Nat} {f : Nat → Nat} (h : ∀ j, j < k → f j = 0) : wsum k f = 0 :=
  Nat.eq_zero_of_not_pos fun hp => by
    obtain ⟨i, hi, hpos⟩ := wsum_pos hp
    rw [h i hi] at hpos
    cases hpos

theorem wsum_setW (F : W → Nat) {k i : Nat} (hi : i < k) (s : State) (w : W) :
    wsum k (fun j => F ((setW s i w).ws j)) + F (s.ws i) = wsum k (fun j => F (s.ws j)) + F w := by
  have := wsum_update (fun j => F (s.ws j)) (fun j => F ((setW s i w).ws j)) hi
    (fun j hj => by rw [setW_other _ _ hj])
  rwa [setW_same] at this

def flightCnt (u : Nat) (k : Nat) (ws : Nat → W) : Nat := wsum k (fun j => cntU u (inflight (ws j)))

theorem flight_pos (u k : Nat) (ws : Nat → W) (h : 0 < flightCnt u k ws) :
    ∃ i, i < k ∧ 0 < cntU u (inflight (ws i)) :=
  wsum_pos h

theorem flight_zero_of (u k : Nat) (ws : Nat → W) (h : ∀ i, i < k → inflight (ws i) = []) :
    flightCnt u k ws = 0 :=
  wsum_zero fun i hi => by rw [h i hi]; rfl

def calledAll (s : State) : List Req := s.calls.flatMap (·.batch)

structure CountInv (c : Cfg) (s : State) : Prop where
  tot : ∀ u, cntU u (reqsOf s.qin) + flightCnt u c.k s.ws + cntU u (calledAll s) + shortCnt u s.out =
    cntU u s.arrived
  ids : s.arrived.map (·.uid) = List.range s.nextId

theorem count_init (c : Cfg) : CountInv c init :=
  ⟨fun u => by simp [flight_zero_of u c.k (fun _ => {}) fun _ _ => rfl, init, calledAll, shortCnt], rfl⟩

theorem count_worker {c : Cfg} {s : State} {i : Nat} {w : W} {q : List Item} {l : Option Nat} {o : List Out}
    {cs : List Call} (hi : i < c.k) (h : CountInv c s)
    (hd : ∀ u, cntU u (reqsOf q) + cntU u (inflight w) + cntU u (cs.flatMap (·.batch)) + shortCnt u o =
      cntU u (reqsOf s.qin) + cntU u (inflight (s.ws i)) + cntU u (s.calls.flatMap (·.batch)) + shortCnt u s.out) :
    CountInv c { setW s i w with qin := q, lock := l, out := o, calls := cs } := by
  refine ⟨fun u => ?_, h.ids⟩
  have h1 := h.tot u
  have h2 := wsum_setW (fun w => cntU u (inflight w)) hi s w
  have h3 := hd u
  simp only [flightCnt, calledAll, setW_arrived] at h1 ⊢
  omega

theorem count_step (c : Cfg) (s : State) (a : Act) (s' : State) (h : CountInv c s) (hs : Step c s a s') :
    CountInv c s' := by
  cases hs with
  | arrive kd => exact ⟨fun u => by simp +arith [calledAll, ← h.tot u], by simp [h.ids, List.range_succ]⟩
  | stop => exact ⟨fun u => by simpa [calledAll] using h.tot u, h.ids⟩
  | tick => exact ⟨h.tot, h.ids⟩
  | sGetShort _ _ _ _ hq => exact ⟨fun u => by simp +arith [calledAll, ← h.tot u, hq], h.ids⟩
  | @cGet i z rest hi hp hq | @cMore i z rest hi hp _ hq =>
    exact count_worker hi h fun u => by cases z <;> simp +arith [inflight, heldOf, hp, hq]
  | callEnter hi he hst | callRet _ hi he hst =>
    obtain ⟨a, b, hl, hset⟩ := set_split he
    exact count_worker hi h fun u => by simp +arith [inflight, qb, hset, hl, hst]
  -- the other steps move requests between the places of one worker, `q_in` and `q_out`
  | _ => exact count_worker ‹_› h fun u => by simp +arith [inflight, heldOf, batchOf, qb, *]

theorem count_reachable {c : Cfg} {s : State} (hr : Reachable c s) : CountInv c s :=
  reachable_inv (count_init c) (count_step c) hr

theorem cntU_eq_count (u : Nat) (l : List Req) : cntU u l = (l.map (·.uid)).count u := by
  induction l with
  | nil => rfl
  | cons r t ih => simp [List.count_cons, ih]

theorem cntU_pos_of_mem {r : Req} {l : List Req} (h : r ∈ l) : 0 < cntU r.uid l :=
  List.countP_pos_iff.mpr ⟨r, h, by simp⟩

theorem mem_of_cntU_pos {u : Nat} {l : List Req} (h : 0 < cntU u l) : ∃ r ∈ l, r.uid = u := by
  obtain ⟨r, hr, hp⟩ := List.countP_pos_iff.mp h
  exact ⟨r, hr, by simpa using hp⟩

variable {c : Cfg} {s : State}

theorem cntU_arrived (h : CountInv c s) (u : Nat) :
    cntU u s.arrived = if u < s.nextId then 1 else 0 := by
  rw [cntU_eq_count, h.ids, List.nodup_range.count]
  simp

theorem cntU_arrived_mem (h : CountInv c s) {r : Req} (hr : r ∈ s.arrived) :
    cntU r.uid s.arrived = 1 := by
  have := cntU_pos_of_mem hr
  rw [cntU_arrived h] at this ⊢
  split <;> simp_all

theorem arrived_uid_inj (h : CountInv c s) {r r' : Req} (hr : r ∈ s.arrived)
    (hr' : r' ∈ s.arrived) (hu : r.uid = r'.uid) : r = r' := by
  have hp : s.arrived.Pairwise (fun a b => a.uid ≠ b.uid) := List.pairwise_map.mp (h.ids ▸ List.nodup_range)
  exact List.Pairwise.forall_of_forall_of_flip (R := fun a b => a.uid = b.uid → a = b) (fun _ _ _ => rfl)
    (hp.imp fun hne he => absurd he hne) (hp.imp fun hne he => absurd he.symm hne) hr hr' hu

theorem called_genuine (hs : ShapeInv c s) {r : Req} (h : r ∈ calledAll s) :
    Genuine s.arrived r := by
  obtain ⟨cl, hcl, hr⟩ := List.mem_flatMap.mp h
  exact (hs.calls cl hcl).1.2.2 r hr

theorem mem_called_of_cnt (hs : ShapeInv c s) (hc : CountInv c s) {r : Req}
    (hr : r ∈ s.arrived) (h : 0 < cntU r.uid (calledAll s)) : r ∈ calledAll s := by
  obtain ⟨r', hr', hu⟩ := mem_of_cntU_pos h
  exact arrived_uid_inj hc (called_genuine hs hr').2 hr hu ▸ hr'

def ShortOk (arr : List Req) (o : Out) : Prop :=
  ∀ u, isShort u o = true → ∃ r ∈ arr, r.uid = u ∧ r.kind ≠ .good

def ShortInv (s : State) : Prop := ∀ o ∈ s.out, ShortOk s.arrived o

theorem isShort_shortRes {u : Nat} {r : Req} (h : isShort u (.res r.uid (shortRes r.kind)) = true) : r.uid = u := by
  cases hk : r.kind <;> simp [isShort, shortRes, hk] at h <;> exact h

theorem short_step {c : Cfg} {s : State} {a : Act} {s' : State} (hsh : ShapeInv c s) (h : ShortInv s)
    (hs : Step c s a s') : ShortInv s' := by
  cases hs with
  | arrive =>
    intro o ho u hu
    obtain ⟨r, hr, h2⟩ := h o ho u hu
    exact ⟨r, List.mem_append_left _ hr, h2⟩
  | cPutStop | gFirstStop | sGetStop => exact forall_mem_snoc h nofun
  | cPutShort _ hp hk =>
    exact forall_mem_snoc h fun u hu => ⟨_, (hsh.ws _).held _ hp, isShort_shortRes hu, hk⟩
  | sGetShort _ _ _ _ hq hk =>
    exact forall_mem_snoc h fun u hu => ⟨_, hsh.qin _ (hq ▸ List.mem_cons_self), isShort_shortRes hu, hk⟩
  | emit =>
    refine fun o ho => (List.mem_append.mp ho).elim (h o) fun ho u hu => ?_
    rw [isShort_outsOf u o ho] at hu
    cases hu
  | _ => exact h

theorem short_reachable {c : Cfg} {s : State} (hr : Reachable c s) : ShortInv s :=
  (reachable_inv (Inv := fun s => ShapeInv c s ∧ ShortInv s) ⟨shape_init c, nofun⟩
    (fun _ _ _ h hs => ⟨shape_step h.1 hs, short_step h.1 h.2 hs⟩) hr).2

theorem shortCnt_pos {u : Nat} {out : List Out} (h : 0 < shortCnt u out) : ∃ o ∈ out, isShort u o = true :=
  List.countP_pos_iff.mp h

end Batch
