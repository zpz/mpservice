import MpsVerif.Proofs.AFifoSim
/-! Liveness of the `async_fifo_stream` model: a measure that every step decreases (every execution
    is finite) and progress (a reachable state in which the generator has not returned always has
    an enabled action).  Together: every maximal execution ends `closed` — the async iteration
    cannot hang where the sync one does not, whatever the completion order. -/
namespace AFifo
open Fifo (Cfg SrcEnd Raised)

/-- 1 until the consumer has waited for the tasks it cancelled while they ran -/
def CPc.unreaped : CPc → Nat
  | .join | .closed => 0
  | _ => 1

theorem unreaped_step {c : Cfg} {s s' : State} {a : Act} (hs : Step c s a s') :
    s'.cpc.unreaped ≤ s.cpc.unreaped := by
  cases hs with
  | getItem hc | getEnd hc | getExc hc | yld hc | raiseItem hc | next hc | close hc | setStop hc
  | drainEnd hc | drainExc hc | drainEmpty hc =>
    rw [hc]
    exact Nat.le_refl 1
  | reap | join => exact Nat.zero_le _
  | _ => exact Nat.le_refl _

def mu (c : Cfg) (s : State) : Nat := Fifo.mu c s.sync + s.cpc.unreaped

theorem mu_decreases {c : Cfg} {s s' : State} {a : Act} (hp : PairInv s) (hs : Step c s a s') :
    mu c s' < mu c s := by
  rcases sim hp hs with ⟨h1, h2, e⟩ | ⟨_, hs'⟩
  · unfold mu
    rw [e, h1, h2]
    exact Nat.lt_succ_self _
  · have := Fifo.mu_decreases _ _ _ _ hs'
    exact Nat.add_lt_add_of_lt_of_le this (unreaped_step hs)

theorem FPc.sync_done {f : FPc} (h : f.sync = .done) : f = .done := by
  cases f <;> first | rfl | nomatch h

theorem progress_of_inv (c : Cfg) (hcap : 1 ≤ c.cap) (s : State)
    (h : Inv c s) (hnf : ¬ Final s) : ∃ a, (step c s a).isSome = true := by
  obtain ⟨hp, hs⟩ := h
  have feeder : s.fpc ≠ .done → s.queue.length < c.cap + 1 → ∃ a, (step c s a).isSome = true := by
    intro hnd hroom
    cases hf : s.fpc with
    | idle =>
      by_cases hn : s.pulled < c.n
      · exact ⟨.pull, Option.isSome_of_eq_some (if_pos ⟨hf, hn⟩)⟩
      · have hn' : s.pulled = c.n := Nat.le_antisymm hs.sup.pulled_le (Nat.le_of_not_lt hn)
        cases hse : c.srcEnd with
        | clean => exact ⟨.srcEnd, Option.isSome_of_eq_some (if_pos ⟨hf, hn', hse⟩)⟩
        | exc => exact ⟨.srcRaise, Option.isSome_of_eq_some (if_pos ⟨hf, hn', hse⟩)⟩
    | check i =>
      cases ht : s.toStop with
      | false => exact ⟨.fcheck, by simp [step, hf, ht]⟩
      | true => exact ⟨.stopSeen, by simp [step, hf, ht]⟩
    | sub i =>
      cases hp : c.preFail i with
      | false => exact ⟨.submit, by simp [step, hf, hp]⟩
      | true => exact ⟨.preFail, by simp [step, hf, hp]⟩
    | hold i => exact ⟨.put, by simp [step, hf, hp.held hf, hroom]⟩
    | putEnd => exact ⟨.putEnd, Option.isSome_of_eq_some (if_pos ⟨hf, hroom⟩)⟩
    | putExc => exact ⟨.putExc, Option.isSome_of_eq_some (if_pos ⟨hf, hroom⟩)⟩
    | done => exact absurd hf hnd
  cases hc : s.cpc with
  | idle =>
    cases hq : s.queue with
    | nil =>
      refine feeder (fun hd => ?_) (by simp [hq])
      have := hs.ph.one_mark (by simp [State.sync, hc, CPc.sync, Fifo.CPc.active])
        (by simp [State.sync, hd, FPc.sync])
      simp [State.sync, hq, Fifo.marks] at this
    | cons x rest => cases x <;> exact ⟨.get, by simp [step, hc, hq]⟩
  | wait x t =>
    cases hp.wait hc
    rcases hs.fut x (by simp [State.sync, hc, CPc.sync, Fifo.cIdx]) with h | h | h
    · exact ⟨.start x, Option.isSome_of_eq_some (if_pos h)⟩
    · exact ⟨.finish x, Option.isSome_of_eq_some (if_pos h)⟩
    · replace h : x ∈ s.finished := h
      cases he : c.isErr x with
      | false => exact ⟨.yld, by simp [step, hc, h, he]⟩
      | true =>
        cases hx : c.returnExc with
        | true => exact ⟨.yld, by simp [step, hc, h, hx]⟩
        | false => exact ⟨.raiseItem, by simp [step, hc, h, he, hx]⟩
  | susp => exact ⟨.next, Option.isSome_of_eq_some (if_pos hc)⟩
  | stopping => exact ⟨.setStop, Option.isSome_of_eq_some (if_pos hc)⟩
  | drain =>
    cases hq : s.queue with
    | nil => exact ⟨.drainEmpty, Option.isSome_of_eq_some (if_pos ⟨hc, hq⟩)⟩
    | cons x rest =>
      cases x with
      | item x t =>
        cases hp.queue (hq ▸ List.mem_cons_self)
        rcases hs.fut x (by simp [State.sync, hc, hq, CPc.sync, QItem.sync, Fifo.cIdx, Fifo.qidx])
          with h | h | h
        · exact ⟨.drainCancel, by simp [step, hc, hq, show x ∈ s.pending from h]⟩
        · exact ⟨.drainCancelRun, by simp [step, hc, hq, show x ∈ s.running from h]⟩
        · exact ⟨.drainSkip, by simp [step, hc, hq, show x ∈ s.finished from h]⟩
      | endMark | excMark => exact ⟨.drainMark, by simp [step, hc, hq]⟩
  | reap =>
    by_cases hg : ∀ t ∈ s.creq, t ∉ s.running
    · exact ⟨.reap, Option.isSome_of_eq_some (if_pos ⟨hc, hg⟩)⟩
    · have ⟨t, ht⟩ := Classical.not_forall.mp hg
      have ⟨_, hr⟩ := Classical.not_imp.mp ht
      exact ⟨.finish t, Option.isSome_of_eq_some (if_pos (Classical.not_not.mp hr))⟩
  | join =>
    by_cases hd : s.fpc = .done
    · exact ⟨.join, Option.isSome_of_eq_some (if_pos ⟨hc, hd⟩)⟩
    · have hts : s.toStop = true := by
        cases ht : s.toStop with
        | true => rfl
        | false =>
          exact absurd (FPc.sync_done (hs.ph.done_of_over (by simp [State.sync, hc, CPc.sync, Fifo.CPc.over]) ht)) hd
      have hb := hs.put (by simp [State.sync, hc, CPc.sync]) hts
      have hfp : 1 ≤ Fifo.futurePuts s.fpc.sync := by
        cases hf : s.fpc <;> first | exact absurd hf hd | simp [FPc.sync, Fifo.futurePuts]
      refine feeder hd ?_
      simp only [State.sync, List.length_map] at hb
      omega
  | closed => exact absurd hc hnf

/-- From every reachable state the iteration can be brought to its end; with `mu_decreases` every
    run is finite, and by `progress_of_inv` none stops before the end. -/
theorem can_complete (c : Cfg) (hcap : 1 ≤ c.cap) (s : State) (hr : Reachable c s) :
    ∃ bs s', Core.run (step c) s bs = some s' ∧ Final s' := by
  obtain ⟨bs, s', hrun, hr', hmax⟩ := Core.exists_maximal_run (mu c) (Reachable c)
    (fun _ _ _ hr hs => hr.tail hs)
    (fun s a s' hr hs => mu_decreases (inv_reachable c hr).pair (step_sound c s s' a hs)) s hr
  refine ⟨bs, s', hrun, Classical.byContradiction fun hf => ?_⟩
  obtain ⟨a, ha⟩ := progress_of_inv c hcap s' (inv_reachable c hr') hf
  rw [hmax a] at ha
  cases ha

end AFifo
