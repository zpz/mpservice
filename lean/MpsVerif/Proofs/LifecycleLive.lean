import MpsVerif.Proofs.LifecycleInv
import MpsVerif.Proofs.LifecycleMeasure
/-! The shape of the final state of the stop protocol, and progress: with thread queues only, and with pipe-backed
queues under `Safe`. -/
namespace Lifecycle

/-- every channel is a thread queue (`put` never blocks) -/
def Unbounded (net : Net) : Prop := ∀ c, capOf net c = none

theorem unbounded_of_all (net : Net) (h : net.caps.all (fun c => c.isNone) = true) : Unbounded net := by
  intro c
  unfold capOf
  cases hc : net.caps[c]? with
  | none => rfl
  | some o =>
    have := List.all_eq_true.mp h o (List.mem_of_getElem? hc)
    cases o with
    | none => rfl
    | some k => cases this

theorem stop_final (net : Net) (wf : WF net) (s : State) (hr : Reachable net s) (hf : Final s) :
    (∀ n, n < net.nodes.length → s.nodes n = .s []) ∧ s.ledger = 0 := by
  obtain ⟨pre, hpre, hdone, _⟩ := (inv_reachable net wf hr).pre
  unfold Final at hf
  rw [hf, List.append_nil] at hpre
  subst hpre
  exact ⟨fun n hn => hdone _ (wf.joined n hn), hdone _ wf.clear⟩

theorem reenter_final (net : Net) (wf : WF net) (s : State) (hr : Reachable net s) (hf : Final s) :
    ∃ s0, reenter net s = some s0 ∧ s0.ledger = 0 ∧ s0.pc = net.script ∧ s0.stopping = false ∧
      (∀ n, s0.nodes n = .d []) ∧ (∀ c, s0.chans c = []) := by
  obtain ⟨hall, hl⟩ := stop_final net wf s hr hf
  refine ⟨{ init net with ledger := s.ledger }, if_pos ⟨hf, ?_⟩, hl, rfl, rfl, fun _ => rfl, fun _ => rfl⟩
  exact List.all_eq_true.mpr fun n hn => decide_eq_true (hall n (List.mem_range.mp hn))

theorem get_enabled {net : Net} (wf : WF net) {s : State} {n c : Nat} {nd : NodeDesc} (hnd : net.nodes[n]? = some nd)
    (hs : s.nodes n = .d []) (hc : c ∈ nd.ins) (hq : s.chans c ≠ []) : (step net s (.get n c 0)).isSome = true := by
  rw [step, hnd]
  dsimp only
  rw [if_pos ⟨hs, hc⟩]
  cases hq' : s.chans c with
  | nil => exact absurd hq' hq
  | cons m q =>
    cases m with
    | stop =>
      dsimp only
      rw [if_pos rfl]
      split <;> rfl
    | data =>
      cases hpl : nd.plans with
      | nil => exact absurd hpl (wf.plansNe n nd hnd)
      | cons plan ps => rfl

theorem put_stop_enabled {net : Net} {s : State} {n c : Nat} {r : List Nat} (hn : n < net.nodes.length)
    (hs : s.nodes n = .s (c :: r)) : (step net s (.put n)).isSome = true := by
  rw [step, if_pos hn, hs]
  rfl

theorem put_data_enabled {net : Net} {s : State} {n c : Nat} {r : List Nat} (hn : n < net.nodes.length)
    (hs : s.nodes n = .d (c :: r)) (hr : room net s c = true) : (step net s (.put n)).isSome = true := by
  rw [step, if_pos hn, hs]
  dsimp only
  rw [if_pos hr]
  rfl

theorem sput_of_fed (net : Net) (s : State) (hi : Inv net s) (c : Nat) (pre : List Instr)
    (hdone : ∀ i ∈ pre, Done s.nodes s.sput s.ledger i) (hfed : Fed net c pre) : s.sput c = true := by
  obtain ⟨i, hip, rfl | ⟨m, md, rfl, hmd, hc⟩⟩ := hfed
  · exact hdone _ hip
  · exact ((hi.node.of_state hmd (hdone _ hip)).1 c hc).resolve_left nofun

/-- progress, given that a node holding a data message never blocks everybody (`hput`) -/
theorem progress_core (net : Net) (wf : WF net) (s : State) (hi : Inv net s)
    (hput : ∀ x c rest, x < net.nodes.length → s.nodes x = .d (c :: rest) → ∃ a, (step net s a).isSome = true)
    (hnf : ¬ Final s) : ∃ a, (step net s a).isSome = true := by
  obtain ⟨pre, hpre, hdone, _⟩ := hi.pre
  cases hpc : s.pc with
  | nil => exact absurd hpc hnf
  | cons i rest =>
    cases i with
    | put c => exact ⟨.main, by rw [step, hpc]; rfl⟩
    | clear => exact ⟨.main, by rw [step, hpc]; rfl⟩
    | join n =>
      have hscript : net.script = pre ++ Instr.join n :: rest := by rw [hpre, hpc]
      have hlt := wf.joinRange n (by rw [hscript]; exact List.mem_append_right _ List.mem_cons_self)
      have hnd := List.getElem?_eq_getElem hlt
      generalize net.nodes[n] = nd at hnd
      match hs : s.nodes n with
      | .s [] => exact ⟨.main, by rw [step, hpc]; dsimp only; rw [if_pos hs]; rfl⟩
      | .s (c :: r) => exact ⟨.put n, put_stop_enabled hlt hs⟩
      | .d (c :: r) => exact hput n c r hlt hs
      | .d [] =>
        -- a channel of `n` on which a sentinel has certainly been put and which `n` has not taken it from
        have hex : ∃ c, c ∈ nd.ins ∧ Fed net c pre ∧ (nd.all = true → c ∈ s.wait n) := by
          obtain ⟨hf0, hf1⟩ := wf.fed n nd hnd pre rest hscript
          cases ha : nd.all with
          | false =>
            obtain ⟨c, hc, hfed⟩ := hf0 ha
            exact ⟨c, hc, hfed, nofun⟩
          | true =>
            cases hw : s.wait n with
            | nil => exact absurd hw ((hi.node.of_state hnd hs).2 ha)
            | cons c r =>
              have hc : c ∈ nd.ins := (hi.wait n nd hnd ha).1 c (by rw [hw]; exact List.mem_cons_self)
              exact ⟨c, hc, hf1 ha c hc, fun _ => List.mem_cons_self⟩
        obtain ⟨c, hc, hfed, hcw⟩ := hex
        rcases hi.keep c (sput_of_fed net s hi c pre hdone hfed) with
          h | ⟨m, md, pend, hmd, hcm, hm, hr⟩ | ⟨m, md, hmd, hcm, hma, hnw⟩
        · exact ⟨.get n c 0, get_enabled wf hnd hs hc (List.ne_nil_of_mem h)⟩
        · cases hrb : md.rebro with
          | true =>
            -- a worker that took the sentinel still has to put it back
            cases pend with
            | nil => cases hr hrb
            | cons c' r => exact ⟨.put m, put_stop_enabled (lt_of_getElem? hmd) hm⟩
          | false =>
            cases wf.uniq m md hmd hrb c hcm n nd hnd hc
            rw [hs] at hm
            cases hm
        · cases wf.uniq m md hmd (wf.allOk m md hmd hma).1 c hcm n nd hnd hc
          rw [hnd] at hmd
          cases hmd
          exact absurd (hcw hma) hnw

/-- with thread queues only, a thread holding a data message can always put it -/
theorem progress_unbounded (net : Net) (wf : WF net) (hub : Unbounded net) (s : State) (hr : Reachable net s)
    (hnf : ¬ Final s) : ∃ a, (step net s a).isSome = true :=
  progress_core net wf s (inv_reachable net wf hr)
    (fun x c rest hlt hs => ⟨.put x, put_data_enabled hlt hs (by rw [room, hub c])⟩) hnf

def PipesOk (net : Net) (ns : Nat → NSt) (sput : Nat → Bool) : Prop :=
  ∀ c K, capOf net c = some K → sput c = true → ∀ (m : Nat) (md : NodeDesc), net.nodes[m]? = some md →
    Writes md c → ∃ pend, ns m = .s pend

namespace PipesOk

variable {net : Net} {ns ns' : Nat → NSt} {sput : Nat → Bool} {c : Nat}

theorem frame (h : PipesOk net ns sput)
    (hns : ∀ m pend, ns m = .s pend → ∃ pend', ns' m = .s pend') : PipesOk net ns' sput :=
  fun c K hk hsp m md hmd hw => (h c K hk hsp m md hmd hw).elim (hns m)

theorem mark (h : PipesOk net ns sput)
    (hc : ∀ K, capOf net c = some K → ∀ (m : Nat) (md : NodeDesc), net.nodes[m]? = some md → Writes md c →
      ∃ pend, ns m = .s pend) : PipesOk net ns (upd sput c true) := by
  intro c' K hk hsp
  by_cases e : c' = c
  · exact e ▸ hc K (e ▸ hk)
  · rw [upd_ne e] at hsp
    exact h c' K hk hsp

end PipesOk

theorem pipes_step (net : Net) (sf : Safe net) (s : State) (a : Act) (s' : State) (hi : Inv net s)
    (h2 : PipesOk net s.nodes s.sput) (hs : Step net s a s') : PipesOk net s'.nodes s'.sput := by
  cases hs with
  | inject _ | getStopWait _ _ _ _ _ | mainJoin _ _ | mainClear _ => exact h2
  | getData _ hn _ _ _ | getStop _ hn _ _ _ | putData _ hn _ =>
    exact h2.frame fun m pend hm => ⟨pend, upd_s_of_d hn m pend hm⟩
  | @putStop n c rest hlt hn =>
    have hnd := List.getElem?_eq_getElem hlt
    have h2' : PipesOk net (upd s.nodes n (.s rest)) s.sput := h2.frame fun m pend hm => by
      by_cases e : m = n
      · exact ⟨rest, e ▸ upd_same⟩
      · exact ⟨pend, by rw [upd_ne e]; exact hm⟩
    refine h2'.mark fun K hk m md hmd hw => ?_
    -- `n` forwards the sentinel to `c` (then it is the one writer of `c`) or puts it back (then it was there before)
    rcases (hi.node.of_state hnd hn).2.1 c List.mem_cons_self with h | h
    · exact ⟨rest, sf.writer c K hk m n md _ hmd hnd hw (.inr h) ▸ upd_same⟩
    · exact h2' c K hk h.2 m md hmd hw
  | @mainPut c rest hpc =>
    obtain ⟨pre, hpre, hdone, _⟩ := hi.pre
    exact h2.mark fun K hk m md hmd hw => ⟨[], hdone _ (sf.mainAfter c K hk m md pre rest hmd hw (by rw [hpre, hpc]))⟩

theorem pipes_reachable (net : Net) (wf : WF net) (sf : Safe net) {s : State} (hr : Reachable net s) :
    Inv net s ∧ PipesOk net s.nodes s.sput :=
  reachable_inv net (Inv := fun s => Inv net s ∧ PipesOk net s.nodes s.sput) ⟨inv_init net wf, nofun⟩
    (fun s a s' hi hs => ⟨inv_step net s a s' hi.1 hs, pipes_step net sf s a s' hi.1 hi.2 hs⟩) hr

/-- a node holding a data message can put it, or its reader — or somebody further downstream — can move -/
theorem holder_progress (net : Net) (wf : WF net) (sf : Safe net) (s : State) (hi : Inv net s)
    (h2 : PipesOk net s.nodes s.sput) :
    ∀ (W x c : Nat) (rest : List Nat), wOf net c < W → x < net.nodes.length → s.nodes x = .d (c :: rest) →
      ∃ a, (step net s a).isSome = true := by
  intro W
  induction W with
  | zero => intro x c rest h; omega
  | succ W ih =>
    intro x c rest hW hx hsx
    cases hr : room net s c with
    | true => exact ⟨.put x, put_data_enabled hx hsx hr⟩
    | false =>
      unfold room at hr
      cases hk : capOf net c with
      | none => rw [hk] at hr; cases hr
      | some K =>
        rw [hk] at hr
        have hfull : K ≤ ndata (s.chans c) := Nat.le_of_not_lt (of_decide_eq_false hr)
        have hxd := List.getElem?_eq_getElem hx
        -- `x` still writes to `c`, so no sentinel has been put on `c` and the reader of `c` has not left
        obtain ⟨plan, hpl, hcp⟩ := (hi.node.of_state hxd hsx).1 c List.mem_cons_self
        have hns : s.sput c = false := by
          cases hsp : s.sput c with
          | false => rfl
          | true =>
            obtain ⟨pend, hm⟩ := h2 c K hk hsp x _ hxd (.inl ⟨plan, hpl, hcp⟩)
            rw [hsx] at hm
            cases hm
        obtain ⟨r, rd, hrd, hcr, hshape⟩ := sf.reader c K hk
        match hsr : s.nodes r with
        | .s pend =>
          obtain ⟨_, _, t1, t2⟩ := hi.node.of_state hrd hsr
          rcases hshape with h | h
          · rw [t1 c h] at hns
            cases hns
          · rw [t2 h c hcr] at hns
            cases hns
        | .d [] =>
          refine ⟨.get r c 0, get_enabled wf hrd hsr hcr fun hq => ?_⟩
          rw [hq] at hfull
          exact absurd (Nat.lt_of_lt_of_le (sf.capPos c K hk) hfull) (Nat.lt_irrefl _)
        | .d (c' :: rest') =>
          -- the reader is itself holding a message, for a lighter queue
          obtain ⟨plan', hpl', hcp'⟩ := (hi.node.of_state hrd hsr).1 c' List.mem_cons_self
          have := wf.weight r rd hrd c hcr plan' hpl'
          have := planCost_mem net plan' c' hcp'
          exact ih r c' rest' (by omega) (lt_of_getElem? hrd) hsr

theorem progress_safe (net : Net) (wf : WF net) (sf : Safe net) (s : State) (hr : Reachable net s)
    (hnf : ¬ Final s) : ∃ a, (step net s a).isSome = true := by
  obtain ⟨hi, h2⟩ := pipes_reachable net wf sf hr
  exact progress_core net wf s hi
    (fun x c rest hlt hs => holder_progress net wf sf s hi h2 (wOf net c + 1) x c rest (by omega) hlt hs) hnf

end Lifecycle
