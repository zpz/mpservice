import MpsVerif.Model.Lifecycle
import MpsVerif.Core.Sys
/-! Relational presentation of `Lifecycle.step`, its soundness, and the completeness of the candidate list `cands`. -/
namespace Lifecycle

theorem lt_of_getElem? {α : Type} {l : List α} {n : Nat} {x : α} (h : l[n]? = some x) : n < l.length :=
  (List.getElem?_eq_some_iff.mp h).1

@[simp] theorem upd_same {β : Type} {f : Nat → β} {i : Nat} {v : β} : upd f i v i = v := by simp [upd]

theorem upd_ne {β : Type} {f : Nat → β} {i j : Nat} {v : β} (h : j ≠ i) : upd f i v j = f j := by simp [upd, h]

theorem upd_true_mono {f : Nat → Bool} {c c' : Nat} (h : f c' = true) : upd f c true c' = true := by
  unfold upd
  split
  · rfl
  · exact h

theorem upd_self {β : Type} (f : Nat → β) (i : Nat) : upd f i (f i) = f := by
  funext j
  unfold upd
  split
  · rename_i e
    rw [e]
  · rfl

inductive Step (net : Net) : State → Act → State → Prop where
  | inject {s} : s.stopping = false →
      Step net s .inject { s with chans := upd s.chans net.entry (s.chans net.entry ++ [.data]), ledger := s.ledger + 1 }
  | getData {s n c k nd rest plan} : net.nodes[n]? = some nd → s.nodes n = .d [] → c ∈ nd.ins →
      s.chans c = .data :: rest → nd.plans[k]? = some plan →
      Step net s (.get n c k) { s with chans := upd s.chans c rest, nodes := upd s.nodes n (.d plan),
                                       ledger := if nd.sink then s.ledger - 1 else s.ledger }
  | getStop {s n c nd rest} : net.nodes[n]? = some nd → s.nodes n = .d [] → c ∈ nd.ins →
      s.chans c = .stop :: rest → waitAfter nd (s.wait n) c = [] →
      Step net s (.get n c 0) { s with chans := upd s.chans c rest,
                                       nodes := upd s.nodes n (.s ((if nd.rebro then [c] else []) ++ nd.souts)),
                                       wait := upd s.wait n [] }
  | getStopWait {s n c nd rest} : net.nodes[n]? = some nd → s.nodes n = .d [] → c ∈ nd.ins →
      s.chans c = .stop :: rest → waitAfter nd (s.wait n) c ≠ [] →
      Step net s (.get n c 0) { s with chans := upd s.chans c rest,
                                       wait := upd s.wait n (waitAfter nd (s.wait n) c) }
  | putData {s n c rest} : n < net.nodes.length → s.nodes n = .d (c :: rest) → room net s c = true →
      Step net s (.put n) { s with chans := upd s.chans c (s.chans c ++ [.data]), nodes := upd s.nodes n (.d rest) }
  | putStop {s n c rest} : n < net.nodes.length → s.nodes n = .s (c :: rest) →
      Step net s (.put n) { s with chans := upd s.chans c (s.chans c ++ [.stop]), nodes := upd s.nodes n (.s rest),
                                   sput := upd s.sput c true }
  | mainPut {s c rest} : s.pc = .put c :: rest →
      Step net s .main { s with chans := upd s.chans c (s.chans c ++ [.stop]), sput := upd s.sput c true, pc := rest,
                                stopping := true }
  | mainJoin {s n rest} : s.pc = .join n :: rest → s.nodes n = .s [] →
      Step net s .main { s with pc := rest, stopping := true }
  | mainClear {s rest} : s.pc = .clear :: rest →
      Step net s .main { s with ledger := 0, pc := rest, stopping := true }

theorem step_sound (net : Net) (s s' : State) (a : Act) (h : step net s a = some s') : Step net s a s' := by
  revert s'
  fun_cases step net s a <;> intro s' h <;> cases h
  next hs => exact .inject hs
  next hnd hg _ hq _ hp => exact .getData hnd hg.1 hg.2 hq hp
  next hnd hg _ hq _ hw => exact .getStop hnd hg.1 hg.2 hq hw
  next hnd hg _ hq _ hw => exact .getStopWait hnd hg.1 hg.2 hq hw
  next hn _ _ hs hr => exact .putData hn hs hr
  next hn _ _ hs => exact .putStop hn hs
  next hp => exact .mainPut hp
  next hp hn => exact .mainJoin hp hn
  next hp => exact .mainClear hp

def Reachable (net : Net) (s : State) : Prop := Core.Reach (step net) (init net) s

theorem reachable_inv (net : Net) {Inv : State → Prop} (h0 : Inv (init net))
    (hstep : ∀ s a s', Inv s → Step net s a s' → Inv s') {s : State} (hr : Reachable net s) : Inv s :=
  Core.invariant_reach (fun s a s' hi hs => hstep s a s' hi (step_sound net s s' a hs)) h0 hr

theorem inject_mem_cands (net : Net) : Act.inject ∈ cands net :=
  List.mem_append_left _ List.mem_cons_self

theorem main_mem_cands (net : Net) : Act.main ∈ cands net :=
  List.mem_append_left _ (List.mem_cons_of_mem _ List.mem_cons_self)

theorem put_mem_cands {net : Net} {n : Nat} (hn : n < net.nodes.length) : Act.put n ∈ cands net :=
  List.mem_append_right _ (List.mem_flatMap.mpr ⟨n, List.mem_range.mpr hn, List.mem_cons_self⟩)

theorem get_mem_cands {net : Net} {n c k : Nat} {nd : NodeDesc} (hnd : net.nodes[n]? = some nd) (hc : c ∈ nd.ins)
    (hk : k < max 1 nd.plans.length) : Act.get n c k ∈ cands net := by
  refine List.mem_append_right _ (List.mem_flatMap.mpr ⟨n, List.mem_range.mpr (lt_of_getElem? hnd), ?_⟩)
  rw [hnd]
  exact List.mem_cons_of_mem _ (List.mem_flatMap.mpr ⟨c, hc, List.mem_map.mpr ⟨k, List.mem_range.mpr hk, rfl⟩⟩)

theorem cands_complete (net : Net) (s : State) (a : Act) (h : (step net s a).isSome = true) : a ∈ cands net := by
  obtain ⟨s', hs'⟩ := Option.isSome_iff_exists.mp h
  cases step_sound net s s' a hs' with
  | inject _ => exact inject_mem_cands net
  | mainPut _ | mainJoin _ _ | mainClear _ => exact main_mem_cands net
  | getData hnd _ hc _ hpl =>
    exact get_mem_cands hnd hc (Nat.lt_of_lt_of_le (lt_of_getElem? hpl) (Nat.le_max_right ..))
  | getStop hnd _ hc _ _ | getStopWait hnd _ hc _ _ =>
    exact get_mem_cands hnd hc (Nat.lt_of_lt_of_le Nat.one_pos (Nat.le_max_left ..))
  | putData hn _ _ | putStop hn _ => exact put_mem_cands hn

theorem foldl_eq_run (net : Net) (as : List Act) (o : Option State) :
    as.foldl (fun (o : Option State) a => o.bind (fun s => step net s a)) o =
      o.bind (fun s => Core.run (step net) s as) := by
  induction as generalizing o with
  | nil => cases o <;> rfl
  | cons a as ih =>
    rw [List.foldl_cons, ih]
    cases o <;> rfl

theorem deadlocks_sound (net : Net) (as : List Act) (h : deadlocks net as = true) :
    ∃ s, Reachable net s ∧ ¬ Final s ∧ ∀ a, step net s a = none := by
  unfold deadlocks at h
  rw [foldl_eq_run] at h
  split at h
  · rename_i s hs
    simp only [Bool.and_eq_true, Bool.not_eq_true', decide_eq_false_iff_not, List.isEmpty_iff] at h
    refine ⟨s, ⟨as, hs⟩, h.1, fun a => ?_⟩
    cases hst : step net s a with
    | none => rfl
    | some s1 =>
      have : a ∈ enabled net s :=
        List.mem_filter.mpr ⟨cands_complete net s a (by rw [hst]; rfl), by rw [hst]; rfl⟩
      rw [h.2] at this
      cases this
  · cases h

end Lifecycle
