import MpsVerif.Proofs.BatchInv
/-! Clock invariants of the batching-worker model (behind `C09_deadline`). -/
namespace Batch

def GTime (c : Cfg) (clock : Nat) : GPh → Prop
  | .coll _ t0 | .ready _ t0 => t0 ≤ clock ∧ clock ≤ t0 + c.wait
  | _ => True

/-- a released batch was released within its window; without a pool it enters `call` at once -/
def ETime (c : Cfg) (clock : Nat) (e : PEnt) : Prop :=
  e.t0 ≤ e.trel ∧ e.trel ≤ e.t0 + c.wait ∧ e.trel ≤ clock ∧ (c.pool = false → e.st = .queued → e.trel = clock)

structure WTime (c : Cfg) (clock : Nat) (w : W) : Prop where
  gph : GTime c clock w.gph
  pd : ∀ e ∈ w.pd, ETime c clock e

def CallTime (c : Cfg) (clock : Nat) (cl : Call) : Prop :=
  cl.t0 ≤ cl.trel ∧ cl.trel ≤ cl.t0 + c.wait ∧ cl.trel ≤ cl.tcall ∧ cl.tcall ≤ clock ∧
    (c.pool = false → cl.tcall = cl.trel)

structure TimeInv (c : Cfg) (s : State) : Prop where
  ws : ∀ j, WTime c s.clock (s.ws j)
  idle : ∀ j, c.k ≤ j → s.ws j = {}
  calls : ∀ cl ∈ s.calls, CallTime c s.clock cl

theorem time_init (c : Cfg) : TimeInv c init :=
  ⟨fun _ => ⟨trivial, nofun⟩, fun _ _ => rfl, nofun⟩

theorem idle_setW {c : Cfg} {s : State} (h : ∀ j, c.k ≤ j → s.ws j = {}) {i : Nat} (hi : i < c.k) {w : W} :
    ∀ j, c.k ≤ j → (setW s i w).ws j = {} :=
  fun j hj => (setW_other _ _ (Nat.ne_of_gt (Nat.lt_of_lt_of_le hi hj))).trans (h j hj)

/-- maximal progress: `tickOk` lets the clock advance only before every deadline, while no assembled
    batch is waiting for its release and, without a pool, no released batch for `call` -/
theorem WTime.tick {c : Cfg} {clock : Nat} {w : W} (h : WTime c clock w) (ht : tickOk c clock w = true) :
    WTime c (clock + 1) w := by
  simp only [tickOk, Bool.and_eq_true, Bool.or_eq_true, List.all_eq_true] at ht
  refine ⟨?_, fun e he => ?_⟩
  · have hg := h.gph
    cases hw : w.gph <;> rw [hw] at hg ht
    · trivial
    · have hlt : clock < _ := of_decide_eq_true ht.1
      exact ⟨Nat.le_succ_of_le hg.1, hlt⟩
    · cases ht.1
    · trivial
  · obtain ⟨h1, h2, h3, _⟩ := h.pd e he
    refine ⟨h1, h2, Nat.le_succ_of_le h3, fun hp hq => ?_⟩
    rcases ht.2 with hp' | hall
    · rw [hp] at hp'
      cases hp'
    · have := hall e he
      rw [hq] at this
      cases this

theorem time_step (c : Cfg) (s : State) (a : Act) (s' : State) (h : TimeInv c s) (hs : Step c s a s') :
    TimeInv c s' := by
  obtain ⟨hw, hid, hc⟩ := h
  cases hs with
  | arrive | stop | sGetShort => exact ⟨hw, hid, hc⟩
  | tick ht =>
    refine ⟨fun j => ?_, hid, fun cl hcl => ?_⟩
    · by_cases hk : j < c.k
      · exact (hw j).tick (ht j hk)
      · have hj := hw j
        rw [hid j (Nat.le_of_not_lt hk)] at hj ⊢
        exact ⟨trivial, nofun⟩
    · obtain ⟨h1, h2, h3, h4, h5⟩ := hc cl hcl
      exact ⟨h1, h2, h3, Nat.le_succ_of_le h4, h5⟩
  | gFirstStop hi | sGetStop hi => exact ⟨forall_setW hw ⟨trivial, (hw _).pd⟩, idle_setW hid hi, hc⟩
  | gFirstReq hi =>
    exact ⟨forall_setW hw ⟨⟨Nat.le_refl _, Nat.le_add_right _ _⟩, (hw _).pd⟩, idle_setW hid hi, hc⟩
  | gNextStop hi hg | gNextMore hi hg | gNextFull hi hg | gTimeout hi hg =>
    have hg' := hg ▸ (hw _).gph
    exact ⟨forall_setW hw ⟨hg', (hw _).pd⟩, idle_setW hid hi, hc⟩
  | gRelease hi hg =>
    have hg' := hg ▸ (hw _).gph
    exact ⟨forall_setW hw ⟨trivial, forall_mem_snoc (hw _).pd ⟨hg'.1, hg'.2, Nat.le_refl _, fun _ _ => rfl⟩⟩,
      idle_setW hid hi, hc⟩
  | sGetGood hi =>
    exact ⟨forall_setW hw ⟨(hw _).gph,
        forall_mem_snoc (hw _).pd ⟨Nat.le_refl _, Nat.le_add_right _ _, Nat.le_refl _, fun _ _ => rfl⟩⟩,
      idle_setW hid hi, hc⟩
  | callEnter hi he hst =>
    obtain ⟨h1, h2, h3, h4⟩ := (hw _).pd _ (List.mem_of_getElem? he)
    exact ⟨forall_setW hw ⟨(hw _).gph, forall_mem_set (hw _).pd ⟨h1, h2, h3, nofun⟩⟩, idle_setW hid hi,
      forall_mem_snoc hc ⟨h1, h2, h3, Nat.le_refl _, fun hp => (h4 hp hst).symm⟩⟩
  | callRet _ hi he =>
    obtain ⟨h1, h2, h3, _⟩ := (hw _).pd _ (List.mem_of_getElem? he)
    exact ⟨forall_setW hw ⟨(hw _).gph, forall_mem_set (hw _).pd ⟨h1, h2, h3, nofun⟩⟩, idle_setW hid hi, hc⟩
  | emit hi hp =>
    exact ⟨forall_setW hw ⟨(hw _).gph, fun e he => (hw _).pd e (mem_of_tail hp he)⟩, idle_setW hid hi, hc⟩
  | _ => exact ⟨forall_setW hw ⟨(hw _).gph, (hw _).pd⟩, idle_setW hid ‹_›, hc⟩

theorem time_reachable {c : Cfg} {s : State} (hr : Reachable c s) : TimeInv c s :=
  reachable_inv (time_init c) (time_step c) hr

end Batch
