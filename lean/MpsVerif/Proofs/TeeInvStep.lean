import MpsVerif.Proofs.TeeInv
/-! `Inv` is preserved by every step: what is known at the program point a fork leaves gives what
    must be known where it arrives. -/
namespace Tee

theorem inv_step {c : Cfg} {s : State} {a : Act} {s' : State} (hi : Inv c s) (hs : Step c s a s') : Inv c s' := by
  obtain ⟨f, k⟩ := a
  have hf := hs.lt
  have ho := hi.ok hf
  have hbox : ∀ {j j' : Nat}, (s.forks f).cur = some j → (s.forks f).cur = some j' → j' = j :=
    fun h h' => Option.some.inj (h'.symm.trans h)
  cases hs
  case call _ hp =>
    have ha := hi.at hf hp
    refine hi.move_local hf hp ?_
    show At c s f _ (if (s.forks f).cur = none then Pc.chkHead else Pc.wLoop)
    split
    next hc => exact ⟨ha, hc⟩
    next hc =>
      cases hst : (s.forks f).st
      · exact absurd (ha.1 hst).1 hc
      · obtain ⟨h1, _, h3, _⟩ := ha.2 hst
        cases hj : (s.forks f).cur
        · exact absurd hj hc
        · obtain ⟨rfl, h5⟩ := h3 _ hj
          exact ⟨hj, h1, h5⟩
  case hgetChk _ hp =>
    obtain ⟨ha, hcur⟩ := hi.at hf hp
    have hle := ho.1.2.2.2
    refine hi.move_local hf hp ?_
    show At c s f _ (if s.linked = 0 then Pc.hLoop else if (s.forks f).st = false then Pc.hNext else Pc.retStop)
    split
    next h0 =>
      cases hst : (s.forks f).st
      · exact ⟨hst, ha.1 hst⟩
      · have := (ha.2 hst).2.1
        omega
    next h0 =>
      split
      next hst => exact ⟨⟨hst, ha.1 hst⟩, Nat.pos_of_ne_zero h0⟩
      next hst =>
        obtain ⟨h1, _, h3⟩ := ha.2 (Bool.of_not_eq_false hst)
        exact ⟨h3.2 hcur, h1⟩
  case hgetLoop _ hp =>
    have ha := hi.at hf hp
    refine hi.move_local hf hp ?_
    show At c s f _ (if s.linked = 0 then Pc.hAcq else Pc.hNext)
    split
    next => exact ha
    next h0 => exact ⟨ha, Nat.pos_of_ne_zero h0⟩
  case hgetLocked _ hp =>
    obtain ⟨hfr, hl, hq⟩ := hi.at hf hp
    refine hi.move_local hf hp ?_ fun _ => ?_
    · show At c s f _ (if s.linked = 0 then Pc.hPull else Pc.hRel)
      split
      next h0 => exact ⟨hfr, hl, hq, h0⟩
      next h0 => exact ⟨hfr, hl, hq, Nat.pos_of_ne_zero h0⟩
    · show Pc.locked (if s.linked = 0 then Pc.hPull else Pc.hRel) = true
      split <;> rfl
  case hgetNext hl _ hp =>
    obtain ⟨⟨-, -, h3, h4⟩, -⟩ := hi.at hf hp
    exact hi.move_local hf hp
      ⟨congrArg some h3.symm, (congrArg List.length h4).trans h3.symm, Nat.lt_of_le_of_lt (Nat.le_of_eq h3) hl⟩
  case acqOkH hl _ hp =>
    exact hi.move_locked hf hp rfl (.inl hl) hi.glob .of_eq (.inr ⟨rfl, rfl⟩) ⟨hi.at hf hp, rfl, hi.quiet hl⟩
  case acqOkW hl _ hp =>
    obtain ⟨hab, hne⟩ := hi.at hf hp
    exact hi.move_locked hf hp rfl (.inl hl) hi.glob .of_eq (.inr ⟨rfl, rfl⟩) ⟨hab, hne, rfl, hi.quiet hl⟩
  case acqFailH | bacq | incRead | brel =>
    rename_i hp
    exact hi.move_local hf hp (hi.at hf hp)
  case acqFailW _ _ hp => exact hi.move_local hf hp (hi.at hf hp).1
  case pullH hlt hr _ hp =>
    obtain ⟨hfr, hl, hq, h0⟩ := hi.at hf hp
    refine hi.move_locked hf hp rfl (.inr hl) (hi.glob.pull hq hlt hr)
      ⟨Nat.le_refl _, id, fun h => absurd h (Nat.ne_of_lt hlt), Nat.le_refl _⟩ (.inr ⟨hl, rfl⟩) ⟨hfr, hl, ?_, h0, ?_⟩
    · show s.boxes + 1 = 1
      omega
    · show s.put = 0
      omega
  case pullW hlt hr _ hp =>
    obtain ⟨hab, hne, hl, hq, h1⟩ := hi.at hf hp
    refine hi.move_locked hf hp rfl (.inr hl) (hi.glob.pull hq hlt hr)
      ⟨Nat.le_refl _, id, fun h => absurd h (Nat.ne_of_lt hlt), Nat.le_refl _⟩ (.inr ⟨hl, rfl⟩)
      ⟨hab, hne, hl, ?_, ?_, h1⟩
    · show s.boxes + 1 = s.linked + 1
      omega
    · show s.put = s.linked
      omega
  case srcEndH hpl hfail _ hp =>
    obtain ⟨hfr, hl, hq, h0⟩ := hi.at hf hp
    have hlen : 0 = c.len := by
      have := hi.boxes_eq
      omega
    exact hi.move_locked hf hp rfl (.inr hl) (hi.glob.srcEnd hpl hfail) ⟨Nat.le_refl _, id, id, Nat.le_succ _⟩
      (.inr ⟨hl, rfl⟩) ⟨hfr, hl, hq, hfail, hlen, hpl, Nat.succ_pos _⟩
  case srcEndW hpl hfail _ hp =>
    obtain ⟨hab, hne, hl, hq, h1⟩ := hi.at hf hp
    have hlen : (s.forks f).inc + 1 = c.len := by
      have := hi.boxes_eq
      omega
    refine hi.move_locked hf hp rfl (.inr hl) (hi.glob.srcEnd hpl hfail) ⟨Nat.le_refl _, id, id, Nat.le_succ _⟩
      (.inr ⟨hl, rfl⟩) ⟨hab, fun j hj => ?_, hl, hq⟩
    obtain rfl := hbox hab.1 hj
    exact .inr (.inr ⟨hfail, hlen, hpl, Nat.succ_pos _⟩)
  case srcExcH hpl hfail hr _ hp =>
    obtain ⟨hfr, hl, hq, h0⟩ := hi.at hf hp
    refine hi.move_locked hf hp rfl (.inr hl) (hi.glob.srcExc hq hpl hfail hr)
      ⟨Nat.le_refl _, fun _ => rfl, id, Nat.le_refl _⟩ (.inr ⟨hl, rfl⟩) ⟨hfr, hl, ?_, h0, ?_⟩
    · show s.boxes + 1 = 1
      omega
    · show s.put = 0
      omega
  case srcExcW hpl hfail hr _ hp =>
    obtain ⟨hab, hne, hl, hq, h1⟩ := hi.at hf hp
    refine hi.move_locked hf hp rfl (.inr hl) (hi.glob.srcExc hq hpl hfail hr)
      ⟨Nat.le_refl _, fun _ => rfl, id, Nat.le_refl _⟩ (.inr ⟨hl, rfl⟩) ⟨hab, hne, hl, ?_, ?_, h1⟩
    · show s.boxes + 1 = s.linked + 1
      omega
    · show s.put = s.linked
      omega
  case putH hw _ hp =>
    obtain ⟨hfr, hl, hb, h0, hp0⟩ := hi.at hf hp
    exact hi.move_locked hf hp rfl (.inr hl) (hi.glob.put hw (by omega)) .of_eq (.inr ⟨hl, rfl⟩)
      ⟨hfr, hl, hb, h0, congrArg (· + 1) hp0⟩
  case putW hw _ hp =>
    obtain ⟨hab, hne, hl, hb, hp1, h2⟩ := hi.at hf hp
    refine hi.move_locked hf hp rfl (.inr hl) (hi.glob.put hw (by omega)) .of_eq (.inr ⟨hl, rfl⟩)
      ⟨hab, fun j hj => ?_, hl, hb.symm, hp1.trans hb.symm⟩
    obtain rfl := hbox hab.1 hj
    exact .inl (Nat.lt_of_lt_of_le (Nat.lt_succ_self _) (Nat.le_of_eq h2.symm))
  case hset _ hp =>
    obtain ⟨hfr, hl, hb, h0, hp1⟩ := hi.at hf hp
    exact hi.move_locked hf hp rfl (.inr hl) (hi.glob.link (by omega) (by omega))
      ⟨by omega, id, id, Nat.le_refl _⟩ (.inr ⟨hl, rfl⟩) ⟨hfr, hl, ⟨hb.symm, hp1.trans hb.symm⟩, Nat.one_pos⟩
  case relH _ _ hp =>
    obtain ⟨hfr, hl, hq, -⟩ := hi.at hf hp
    exact hi.move_locked hf hp rfl (.inr hl) hi.glob .of_eq (.inl ⟨rfl, hq⟩) hfr
  case relStop _ _ hp =>
    obtain ⟨hfr, hl, hq, hec⟩ := hi.at hf hp
    exact hi.move_locked hf hp rfl (.inr hl) hi.glob .of_eq (.inl ⟨rfl, hq⟩)
      ⟨⟨hec.1, hfr.2.2.1.trans hec.2.1, hec.2.2⟩, (congrArg List.length hfr.2.2.2).trans hfr.2.2.1.symm⟩
  case relW _ _ hp =>
    obtain ⟨hab, hseen, hl, hq⟩ := hi.at hf hp
    exact hi.move_locked hf hp rfl (.inr hl) hi.glob .of_eq (.inl ⟨rfl, hq⟩) ⟨hab, hseen⟩
  case ngetLoop j _ hc hp =>
    have hab := hi.at hf hp
    obtain rfl := hbox hc hab.1
    refine hi.move_local hf hp ?_
    show At c s f _ (if (s.forks f).inc + 1 < s.linked then Pc.bAcq else
      if isExc c (s.forks f).inc = true then Pc.bAcq else Pc.wAcq)
    split
    next hlt =>
      refine ⟨hab, fun j hj => ?_⟩
      obtain rfl := hbox hab.1 hj
      exact .inl hlt
    next hlt =>
      split
      next he =>
        refine ⟨hab, fun j hj => ?_⟩
        obtain rfl := hbox hab.1 hj
        exact .inr (.inl (of_decide_eq_true he))
      next he => exact ⟨hab, Nat.lt_of_not_le fun h => he (decide_eq_true h)⟩
  case ngetChk j _ hc hp =>
    obtain ⟨hab, hne, hl, hq⟩ := hi.at hf hp
    obtain rfl := hbox hc hab.1
    refine hi.move_local hf hp ?_ fun _ => ?_
    · show At c s f _ (if (s.forks f).inc + 1 < s.linked then Pc.wRel else Pc.wPull)
      split
      next hlt =>
        refine ⟨hab, fun j hj => ?_, hl, hq⟩
        obtain rfl := hbox hab.1 hj
        exact .inl hlt
      next hlt =>
        have h1 : s.linked = (s.forks f).inc + 1 := by
          have := hab.2.2
          omega
        exact ⟨hab, hne, hl, hq, h1⟩
    · show Pc.locked (if (s.forks f).inc + 1 < s.linked then Pc.wRel else Pc.wPull) = true
      split <;> rfl
  case ngetAdv j _ hc hp =>
    obtain ⟨⟨hcur, hpos, hout, hle⟩, hseen⟩ := hi.at hf hp
    have hj : j + 1 = (s.forks f).inc := by
      have := hbox hc hcur
      omega
    have holen := ho.1.2.1
    refine hi.move_local hf hp ?_
    show At c s f _ (if isExc c j = true then Pc.retExc else Pc.ret j)
    split
    next he =>
      have hlen : c.len ≤ j := of_decide_eq_true he
      have hr : s.raised = true := by
        cases hr : s.raised
        · have := hi.boxes_eq_pulled hr
          have := hi.shape.1
          have := hi.pulled_le
          omega
        · rfl
      have h1 : (s.forks f).inc = c.len + 1 := by omega
      have h2 : (s.forks f).out.length = c.len := by omega
      exact ⟨h1, h2, (hi.raised_imp hr).1, hr⟩
    next he =>
      have hlen : j < c.len := Nat.lt_of_not_le fun h => he (decide_eq_true h)
      have h2 : (s.forks f).out.length = j := by omega
      refine ⟨rfl, hj.symm, h2, hlen, fun j' hj' => ?_, fun hn => ?_⟩
      · have hj' : (if j + 1 < s.linked then some (j + 1) else none) = some j' := hj'
        split at hj'
        next hlt =>
          obtain rfl := Option.some.inj hj'
          exact ⟨hj, hlt⟩
        next => cases hj'
      · have hn : (if j + 1 < s.linked then some (j + 1) else none) = none := hn
        split at hn
        next => cases hn
        next hlt =>
          rcases hseen j hc with h | h | h
          · exact absurd h hlt
          · omega
          · exact hj ▸ h
  case nset j _ hc hp =>
    obtain ⟨hab, hne, hl, hb, hpl, h1⟩ := hi.at hf hp
    obtain rfl := hbox hc hab.1
    have hle : s.linked ≤ (s.forks f).inc + 2 := by omega
    have hb' : s.boxes = (s.forks f).inc + 2 := by omega
    have hp' : s.put + 1 = (s.forks f).inc + 2 := by omega
    exact hi.move_locked hf hp rfl (.inr hl) (hi.glob.link (Nat.le_of_eq hb'.symm) (by omega))
      ⟨hle, id, id, Nat.le_refl _⟩ (.inr ⟨hl, rfl⟩) ⟨hab.mono hle, hne, hl, hb', hp', rfl⟩
  case inc j _ _ hp =>
    obtain ⟨⟨hcur, hout, hlt⟩, hseen⟩ := hi.at hf hp
    have h : FOk c s f { s.forks f with pc := .bCmp, inc := (s.forks f).inc + 1 } :=
      ⟨⟨ho.1.1, ho.1.2.1, Nat.succ_le_succ (Nat.le_of_eq hout.symm), hlt⟩, fun _ => ho.2.1 (hp ▸ nofun),
        ⟨hcur, Nat.succ_pos _, congrArg (· + 1) hout, hlt⟩, hseen⟩
    exact (hi.step_local hf (hp ▸ nofun) h).set_win hi.win
  case cmp j _ _ hp =>
    have ha := hi.at hf hp
    refine hi.move_local hf hp ?_
    show At c s f _ (if s.cnt j = c.n then Pc.bGet else Pc.bRel)
    split <;> exact ha
  case get hlt _ hp =>
    have hw : s.put ≤ s.popped + 1 + c.bs := Nat.le_trans hi.win.2 (Nat.add_le_add_right (Nat.le_succ _) _)
    exact (hi.move_local (fk := { s.forks f with pc := .bRel }) hf hp (hi.at hf hp)).set_win ⟨hlt, hw⟩
  case recv j _ hp =>
    obtain ⟨hst, hinc, hout, hjl, hcur⟩ := hi.at hf hp
    have hrange : (s.forks f).out = List.range j := by
      rw [← hout]
      exact ho.1.1
    refine hi.step_local hf (hp ▸ nofun) ⟨⟨?_, ?_, ?_, ho.1.2.2.2⟩, fun _ => ho.2.1 (hp ▸ nofun), ?_⟩
    · show (s.forks f).out ++ [j] = List.range ((s.forks f).out ++ [j]).length
      rw [List.length_append, hout, hrange]
      exact List.range_succ.symm
    · show ((s.forks f).out ++ [j]).length ≤ c.len
      rw [List.length_append, hout]
      exact hjl
    · show (s.forks f).inc ≤ ((s.forks f).out ++ [j]).length + 1
      rw [List.length_append, hout, hinc]
      exact Nat.le_succ _
    · refine ⟨fun h => ?_, fun _ => ⟨?_, hinc ▸ Nat.succ_pos j, hcur⟩⟩
      · rw [show (s.forks f).st = true from hst] at h
        cases h
      · show ((s.forks f).out ++ [j]).length = (s.forks f).inc
        rw [List.length_append, hout, hinc]
        rfl
  case exc _ hp =>
    obtain ⟨h1, h2, h3, h4⟩ := hi.at hf hp
    exact hi.step_local hf (hp ▸ nofun) ⟨ho.1, fun h => absurd rfl h, .inr ⟨rfl, h3, h4, h2, h1⟩⟩
  case stop _ hp =>
    obtain ⟨hec, hout⟩ := hi.at hf hp
    exact hi.step_local hf (hp ▸ nofun) ⟨ho.1, fun h => absurd rfl h, .inl ⟨rfl, hec, hout.trans hec.2.1⟩⟩

theorem inv_reachable {c : Cfg} {s : State} (hr : Reachable c s) : Inv c s :=
  reachable_inv (inv_init c) (fun _ _ _ => inv_step) hr

end Tee
