import MpsVerif.Proofs.ProxyCallRefine
import MpsVerif.Core.Sys
/-! Concurrent clients: every interleaving is a sequential proxy run over its linearisation `hist`. -/
namespace ProxyCall

variable {H Op : Type}

theorem proxyRun_snoc (sem : Sem H Op) : ∀ (rs : List (Req Op)) (P : PState H) (r : Req Op),
    proxyRun sem P (rs ++ [r]) =
      ((proxyStep sem (proxyRun sem P rs).1 r).1, (proxyRun sem P rs).2 ++ [(proxyStep sem (proxyRun sem P rs).1 r).2]) := by
  intro rs
  induction rs with
  | nil => intro P r; simp [proxyRun]
  | cons a rs ih =>
    intro P r
    simp only [List.cons_append, proxyRun]
    rw [ih]

/-- the server part of `proxyStep` does not depend on the connection table -/
theorem proxyStep_srv (sem : Sem H Op) (P : PState H) (r : Req Op) :
    (proxyStep sem P r).1.srv = (serverCall sem P.srv r.i r.op).1 ∧
    (proxyStep sem P r).2 = clientRecv (serverCall sem P.srv r.i r.op).2 := by
  unfold proxyStep
  rcases serverCall sem P.srv r.i r.op with ⟨S', m⟩
  exact ⟨rfl, rfl⟩

/-- outcomes of client `c`'s requests, in execution order -/
def outsOf (c : Nat) : List (Req Op) → List Outcome → List Outcome
  | r :: rs, o :: os => if r.c = c then o :: outsOf c rs os else outsOf c rs os
  | _, _ => []

theorem outsOf_snoc (c : Nat) : ∀ (rs : List (Req Op)) (os : List Outcome) (r : Req Op) (o : Outcome),
    rs.length = os.length →
    outsOf c (rs ++ [r]) (os ++ [o]) = outsOf c rs os ++ (if r.c = c then [o] else []) := by
  intro rs
  induction rs with
  | nil =>
    intro os r o hl
    cases os with
    | nil => exact (List.nil_append _).symm
    | cons _ _ => cases hl
  | cons a rs ih =>
    intro os r o hl
    cases os with
    | nil => cases hl
    | cons b os =>
      simp only [List.cons_append, outsOf]
      rw [ih os r o (Nat.succ.inj hl)]
      by_cases hc : a.c = c
      · rw [if_pos hc, if_pos hc]
        rfl
      · rw [if_neg hc, if_neg hc]

def gotOf (c : Nat) (got : List (Nat × Outcome)) : List Outcome := (got.filter (fun x => x.1 == c)).map (·.2)

structure CInv (sem : Sem H Op) (S0 : Server H) (conn0 : Nat → Bool) (s : CState H Op) : Prop where
  lin : (proxyRun sem ⟨S0, conn0⟩ s.hist).1.srv = s.srv ∧ (proxyRun sem ⟨S0, conn0⟩ s.hist).2 = s.execOuts
  len : s.hist.length = s.execOuts.length
  fifo : ∀ c, outsOf c s.hist s.execOuts = gotOf c s.got ++ (s.reply c).toList
  one : ∀ c, s.pending c ≠ none → s.reply c = none

theorem cinv_init (sem : Sem H Op) (S0 : Server H) (conn0 : Nat → Bool) :
    CInv sem S0 conn0 (cinit S0 : CState H Op) :=
  ⟨⟨rfl, rfl⟩, rfl, fun _ => rfl, fun _ _ => rfl⟩

theorem cinv_step (sem : Sem H Op) (S0 : Server H) (conn0 : Nat → Bool) {s s' : CState H Op} {a : CAct Op}
    (h : CInv sem S0 conn0 s) (hs : cstep sem s a = some s') : CInv sem S0 conn0 s' := by
  cases a with
  | send c i op =>
    obtain ⟨hg, hs⟩ := Option.ite_none_right_eq_some.mp hs
    cases hs
    refine ⟨h.lin, h.len, h.fifo, fun d hd => ?_⟩
    by_cases hdc : d = c
    · subst hdc
      exact hg.2
    · simp [hdc] at hd
      exact h.one d hd
  | exec c =>
    simp only [cstep] at hs
    split at hs
    · rename_i i op hp
      obtain ⟨hr, hs⟩ := Option.ite_none_right_eq_some.mp hs
      cases hs
      have hps := proxyStep_srv sem (proxyRun sem ⟨S0, conn0⟩ s.hist).1 ⟨c, i, op⟩
      rw [h.lin.1] at hps
      refine ⟨?_, ?_, fun d => ?_, fun d hd => ?_⟩
      · dsimp only
        rw [proxyRun_snoc]
        exact ⟨hps.1, by rw [h.lin.2, hps.2]⟩
      · simp [h.len]
      · dsimp only
        rw [outsOf_snoc d s.hist s.execOuts _ _ h.len, h.fifo d]
        by_cases hdc : d = c
        · subst hdc
          simp [hr]
        · simp [hdc, Ne.symm hdc]
      · by_cases hdc : d = c
        · subst hdc
          simp at hd
        · simp [hdc] at hd ⊢
          exact h.one d hd
    · cases hs
  | recv c =>
    simp only [cstep] at hs
    split at hs
    · rename_i o hr
      cases hs
      refine ⟨h.lin, h.len, fun d => ?_, fun d hd => ?_⟩
      · dsimp only
        rw [h.fifo d]
        by_cases hdc : d = c
        · subst hdc
          simp [gotOf, hr]
        · simp [gotOf, hdc, Ne.symm hdc]
      · by_cases hdc : d = c
        · subst hdc
          have := h.one d hd
          rw [hr] at this
          cases this
        · simp [hdc]
          exact h.one d hd
    · cases hs

theorem cinv_reach (sem : Sem H Op) (S0 : Server H) (conn0 : Nat → Bool) {s : CState H Op}
    (hr : Core.Reach (cstep sem) (cinit S0) s) : CInv sem S0 conn0 s :=
  Core.invariant_reach (fun _ _ _ h hs => cinv_step sem S0 conn0 h hs) (cinv_init sem S0 conn0) hr

end ProxyCall
