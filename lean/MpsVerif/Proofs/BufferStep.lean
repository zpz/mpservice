import MpsVerif.Model.Buffer
import MpsVerif.Core.Sys
namespace Buffer

inductive Step (c : Cfg) : State → Act → State → Prop where
  | pull {s} : s.wpc = .idle → s.pulled < c.n →
      Step c s .pull { s with wpc := .check s.pulled, pulled := s.pulled + 1 }
  | srcEnd {s} : s.wpc = .idle → s.pulled = c.n → c.srcEnd = .clean → Step c s .srcEnd { s with wpc := .putFin }
  | srcRaise {s} : s.wpc = .idle → s.pulled = c.n → c.srcEnd = .exc → Step c s .srcRaise { s with wpc := .putStop }
  | wcheck {s i} : s.wpc = .check i → s.flag = false → Step c s .wcheck { s with wpc := .hold i }
  | stopSeen {s i} : s.wpc = .check i → s.flag = true → Step c s .stopSeen { s with wpc := .putFin }
  | put {s i} : s.wpc = .hold i → s.queue.length < c.maxsize →
      Step c s .put { s with wpc := .idle, queue := s.queue ++ [.item i] }
  | putFin {s} : s.wpc = .putFin → s.queue.length < c.maxsize →
      Step c s .putFin { s with wpc := .done, queue := s.queue ++ [.fin] }
  | putStop {s} : s.wpc = .putStop → s.queue.length < c.maxsize →
      Step c s .putStop { s with wpc := .putExc, queue := s.queue ++ [.stopMark] }
  | putExc {s} : s.wpc = .putExc → s.queue.length < c.maxsize →
      Step c s .putExc { s with wpc := .done, queue := s.queue ++ [.excObj] }
  | getItem {s i rest} : s.cpc = .idle → s.queue = .item i :: rest →
      Step c s .get { s with cpc := .got i, queue := rest }
  | getFin {s rest} : s.cpc = .idle → s.queue = .fin :: rest →
      Step c s .get { s with cpc := .stopping, queue := rest, ended := true }
  | getStop {s rest} : s.cpc = .idle → s.queue = .stopMark :: rest →
      Step c s .get { s with cpc := .needExc, queue := rest }
  | getExc {s rest} : s.cpc = .needExc → s.queue = .excObj :: rest →
      Step c s .getExc { s with cpc := .stopping, queue := rest, raised := true }
  | yld {s i} : s.cpc = .got i → Step c s .yld { s with cpc := .susp, out := s.out ++ [i] }
  | next {s} : s.cpc = .susp → Step c s .next { s with cpc := .idle }
  | close {s} : s.cpc = .susp → Step c s .close { s with cpc := .stopping, closeReq := true }
  | setFlag {s} : s.cpc = .stopping → Step c s .setFlag { s with cpc := .drain, flag := true }
  | drainPop {s x rest} : s.cpc = .drain → s.queue = x :: rest → Step c s .drainPop { s with queue := rest }
  | joined {s} : s.cpc = .drain → s.wpc = .done → Step c s .joined { s with cpc := .closed }

theorem step_sound (c : Cfg) (s s' : State) (a : Act) (h : step c s a = some s') : Step c s a s' := by
  revert h
  fun_cases step c s a <;> intro h <;> cases h
  next hg => exact .pull hg.1 hg.2
  next hg => exact .srcEnd hg.1 hg.2.1 hg.2.2
  next hg => exact .srcRaise hg.1 hg.2.1 hg.2.2
  next hp hg => exact .wcheck hp hg
  next hp hg => exact .stopSeen hp hg
  next hp hg => exact .put hp hg
  next hg => exact .putFin hg.1 hg.2
  next hg => exact .putStop hg.1 hg.2
  next hg => exact .putExc hg.1 hg.2
  next hc _ _ hq => exact .getItem hc hq
  next hc _ hq => exact .getFin hc hq
  next hc _ hq => exact .getStop hc hq
  next hc _ hq => exact .getExc hc hq
  next hp => exact .yld hp
  next hc => exact .next hc
  next hc => exact .close hc
  next hc => exact .setFlag hc
  next hc _ _ hq => exact .drainPop hc hq
  next hg => exact .joined hg.1 hg.2

theorem step_complete {c : Cfg} {s s' : State} {a : Act} (h : Step c s a s') : step c s a = some s' := by
  cases h <;> simp [step, *]

theorem Step.enabled {c : Cfg} {s s' : State} {a : Act} (h : Step c s a s') :
    (step c s a).isSome = true := by
  rw [step_complete h]
  rfl

def Reachable (c : Cfg) (s : State) : Prop := Core.Reach (step c) init s

theorem reachable_inv (c : Cfg) {Inv : State → Prop} (h0 : Inv init)
    (hstep : ∀ {s a s'}, Inv s → Step c s a s' → Inv s') {s : State} (hr : Reachable c s) : Inv s :=
  Core.invariant_reach (fun s a s' hi hs => hstep hi (step_sound c s s' a hs)) h0 hr

end Buffer
