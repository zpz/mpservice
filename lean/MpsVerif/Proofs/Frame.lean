import MpsVerif.Model.Frame
/-! Lemmas about the record framing model: decimal round trip, header parsing, one record. -/
namespace Frame

theorem digit_toNat {d : Nat} (h : d < 10) : (digit d).toNat = 48 + d := by
  rw [digit, UInt8.toNat_ofNat']
  omega

theorem isDigit_digit {d : Nat} (h : d < 10) : isDigit (digit d) = true := by
  simp only [isDigit, digit_toNat h, Bool.and_eq_true, decide_eq_true_eq]
  omega

theorem isTok_of_isDigit {b : UInt8} (h : isDigit b = true) : isTok b = true := by
  simp only [isDigit, isTok, Bool.and_eq_true, decide_eq_true_eq] at h ⊢
  omega

theorem isTok_props {b : UInt8} (h : isTok b = true) :
    isWs b = false ∧ b ≠ NL ∧ b.toNat < 128 := by
  simp only [isTok, Bool.and_eq_true, decide_eq_true_eq] at h
  refine ⟨?_, ?_, by omega⟩
  · simp only [isWs, Bool.or_eq_false_iff, Bool.and_eq_false_iff, decide_eq_false_iff_not]
    omega
  · rintro rfl
    exact absurd h.1 (by decide)

theorem decVal_append_single (bs : Bytes) (b : UInt8) :
    decVal (bs ++ [b]) = decVal bs * 10 + (b.toNat - 48) := by
  simp only [decVal, List.foldl_append, List.foldl_cons, List.foldl_nil]

theorem toDecF_spec : ∀ (f n : Nat), n < f →
    toDecF f n ≠ [] ∧ (∀ b ∈ toDecF f n, isDigit b = true) ∧ decVal (toDecF f n) = n := by
  intro f
  induction f with
  | zero => exact fun n h => absurd h (Nat.not_lt_zero n)
  | succ f ih =>
    intro n h
    unfold toDecF
    split
    · rename_i h10
      refine ⟨List.cons_ne_nil _ _, ?_, ?_⟩
      · intro b hb
        rw [List.mem_singleton.1 hb]
        exact isDigit_digit h10
      · simp only [decVal, List.foldl_cons, List.foldl_nil, digit_toNat h10, Nat.zero_mul,
          Nat.zero_add, Nat.add_sub_cancel_left]
    · obtain ⟨h1, h2, h3⟩ := ih (n / 10) (Nat.div_lt_of_lt_mul (by omega))
      have hm : n % 10 < 10 := Nat.mod_lt _ (by decide)
      refine ⟨List.append_ne_nil_of_right_ne_nil _ (List.cons_ne_nil _ _), ?_, ?_⟩
      · intro b hb
        rcases List.mem_append.1 hb with hb | hb
        · exact h2 b hb
        · rw [List.mem_singleton.1 hb]
          exact isDigit_digit hm
      · rw [decVal_append_single, h3, digit_toNat hm, Nat.add_sub_cancel_left]
        exact Nat.div_add_mod' n 10

theorem toDec_ne_nil (n : Nat) : toDec n ≠ [] := (toDecF_spec (n + 1) n n.lt_succ_self).1
theorem toDec_digits (n : Nat) : ∀ b ∈ toDec n, isDigit b = true := (toDecF_spec (n + 1) n n.lt_succ_self).2.1
theorem decVal_toDec (n : Nat) : decVal (toDec n) = n := (toDecF_spec (n + 1) n n.lt_succ_self).2.2

/-- `int(str(n)) == n` -/
theorem parseDec_toDec (n : Nat) : parseDec (toDec n) = some n := by
  have h1 : (toDec n).isEmpty = false := by
    rw [List.isEmpty_eq_false_iff]
    exact toDec_ne_nil n
  have h2 : (toDec n).all isDigit = true := List.all_eq_true.2 (toDec_digits n)
  simp only [parseDec, h1, h2, decVal_toDec, Bool.not_true, Bool.or_false, Bool.false_eq_true, if_false]

theorem parseEnc_name (e : Enc) : parseEnc e.name = some e := by
  cases e <;> decide

theorem enc_name_tok (e : Enc) : e.name ≠ [] ∧ ∀ b ∈ e.name, isTok b = true := by
  cases e <;> decide

theorem scanNl_append_eq (bs x : Bytes) :
    scanNl (bs ++ x) = match scanNl bs with
      | some (h, rest) => some (h, rest ++ x)
      | none => (scanNl x).map fun p => (bs ++ p.1, p.2) := by
  induction bs with
  | nil =>
    rw [List.nil_append]
    cases scanNl x <;> rfl
  | cons b bs ih =>
    rw [List.cons_append, scanNl, scanNl]
    by_cases hb : b = NL
    · rw [if_pos hb, if_pos hb]
    · rw [if_neg hb, if_neg hb, ih]
      cases scanNl bs with
      | some p => rfl
      | none => cases scanNl x <;> rfl

theorem scanNl_none (h : Bytes) (hn : ∀ b ∈ h, b ≠ NL) : scanNl h = none := by
  induction h with
  | nil => rfl
  | cons b h ih =>
    rw [scanNl, if_neg (hn b List.mem_cons_self), ih fun x hx => hn x (List.mem_cons_of_mem _ hx)]

theorem scanNl_append {h rest : Bytes} (hn : ∀ b ∈ h, b ≠ NL) :
    scanNl (h ++ NL :: rest) = some (h, rest) := by
  rw [scanNl_append_eq, scanNl_none h hn, scanNl, if_pos rfl]
  simp only [Option.map_some, List.append_nil]

theorem scanNl_split {bs h rest : Bytes} (hs : scanNl bs = some (h, rest)) : bs = h ++ NL :: rest := by
  induction bs generalizing h with
  | nil => cases hs
  | cons b bs ih =>
    rw [scanNl] at hs
    split at hs
    · rename_i hb
      cases hs
      rw [hb]
      rfl
    · cases hsc : scanNl bs with
      | none => rw [hsc] at hs; cases hs
      | some p =>
        rw [hsc] at hs
        cases hs
        rw [List.cons_append, ← ih hsc]

theorem splitAux_tok (tok rest cur : Bytes) (ht : ∀ b ∈ tok, isWs b = false) :
    splitAux (tok ++ rest) cur = splitAux rest (tok.reverse ++ cur) := by
  induction tok generalizing cur with
  | nil => rfl
  | cons b tok ih =>
    rw [List.cons_append, splitAux, ht b List.mem_cons_self,
      ih (b :: cur) fun x hx => ht x (List.mem_cons_of_mem _ hx), List.reverse_cons,
      List.append_assoc]
    rfl

theorem splitAux_field (tok rest : Bytes) (b : UInt8) (hne : tok ≠ []) (ht : ∀ b ∈ tok, isWs b = false)
    (hb : isWs b = true) : splitAux (tok ++ b :: rest) [] = tok :: splitAux rest [] := by
  have he : tok.reverse.isEmpty = false := by
    rw [List.isEmpty_reverse, List.isEmpty_eq_false_iff]
    exact hne
  rw [splitAux_tok tok _ [] ht, List.append_nil, splitAux, hb, if_pos rfl, he, List.reverse_reverse]
  rfl

theorem splitAux_last (tok : Bytes) (hne : tok ≠ []) (ht : ∀ b ∈ tok, isWs b = false) :
    splitAux tok [] = [tok] := by
  have he : tok.reverse.isEmpty = false := by
    rw [List.isEmpty_reverse, List.isEmpty_eq_false_iff]
    exact hne
  have := splitAux_tok tok [] [] ht
  rw [List.append_nil, List.append_nil] at this
  rw [this, splitAux, he, List.reverse_reverse]
  rfl

/-- `'<rid> <n> <enc>'.split() == [rid, n, enc]` -/
theorem splitWs_three {a b c : Bytes} (ha : a ≠ []) (hb : b ≠ []) (hc : c ≠ [])
    (wa : ∀ x ∈ a, isWs x = false) (wb : ∀ x ∈ b, isWs x = false) (wc : ∀ x ∈ c, isWs x = false) :
    splitWs (a ++ SP :: (b ++ SP :: c)) = [a, b, c] := by
  have hsp : isWs SP = true := by decide
  rw [splitWs, splitAux_field a _ SP ha wa hsp, splitAux_field b _ SP hb wb hsp, splitAux_last c hc wc]

/-- `readexactly(n)` and `decode`, once the header line has given the id, the length and the encoder field -/
def readPayload (rid : Bytes) (n : Nat) (e rest : Bytes) : RR :=
  if rest.length < n then .incomplete
  else match parseEnc e with
    | none => .bad
    | some enc => .ok { rid := rid, enc := enc, payload := rest.take n } (rest.drop n)

/-- `read_record` once `readuntil` has returned the line `h`; `rest` is what follows its newline -/
def readBody (lim : Nat) (h rest : Bytes) : RR :=
  if h.length > lim then .overrun
  else if h.any (fun b => b.toNat ≥ 128) then .bad
  else match splitWs h with
    | [rid, nb, e] =>
      match parseDec nb with
      | none => .bad
      | some n => readPayload rid n e rest
    | _ => .bad

theorem readRecord_eq (lim : Nat) (bs : Bytes) :
    readRecord lim bs =
      if bs.isEmpty then .eof else
      match scanNl bs with
      | none => if bs.length > lim then .overrun else .incomplete
      | some (h, rest) => readBody lim h rest := rfl

theorem readBody_cases (lim : Nat) (h : Bytes) :
    (∀ rest, readBody lim h rest = .overrun) ∨ (∀ rest, readBody lim h rest = .bad) ∨
    ∃ rid n e, ∀ rest, readBody lim h rest = readPayload rid n e rest := by
  unfold readBody
  split
  · exact .inl fun _ => rfl
  split
  · exact .inr (.inl fun _ => rfl)
  split
  · split
    · exact .inr (.inl fun _ => rfl)
    · exact .inr (.inr ⟨_, _, _, fun _ => rfl⟩)
  · exact .inr (.inl fun _ => rfl)

theorem readPayload_append (rid : Bytes) (n : Nat) (e rest x : Bytes) :
    match readPayload rid n e rest with
    | .ok r t => t.length ≤ rest.length ∧ readPayload rid n e (rest ++ x) = .ok r (t ++ x)
    | .bad => readPayload rid n e (rest ++ x) = .bad
    | .overrun => readPayload rid n e (rest ++ x) = .overrun
    | .incomplete => True
    | .eof => False := by
  unfold readPayload
  by_cases hl : rest.length < n
  · rw [if_pos hl]
    trivial
  · have hle : n ≤ rest.length := Nat.le_of_not_lt hl
    have hl' : ¬ (rest ++ x).length < n := by
      rw [List.length_append]
      exact Nat.not_lt.2 (Nat.le_trans hle (Nat.le_add_right _ _))
    rw [if_neg hl, if_neg hl']
    cases parseEnc e with
    | none => rfl
    | some enc =>
      exact ⟨List.length_drop ▸ Nat.sub_le _ _,
        by rw [List.take_append_of_le_length hle, List.drop_append_of_le_length hle]⟩

theorem readBody_append (lim : Nat) (h rest x : Bytes) :
    match readBody lim h rest with
    | .ok r t => t.length ≤ rest.length ∧ readBody lim h (rest ++ x) = .ok r (t ++ x)
    | .bad => readBody lim h (rest ++ x) = .bad
    | .overrun => readBody lim h (rest ++ x) = .overrun
    | .incomplete => True
    | .eof => False := by
  rcases readBody_cases lim h with hb | hb | ⟨rid, n, e, hb⟩
  · rw [hb, hb]
  · rw [hb, hb]
  · rw [hb, hb]
    exact readPayload_append rid n e rest x

theorem readRecord_nil (lim : Nat) : readRecord lim [] = .eof := rfl

theorem readRecord_of_some {lim : Nat} {bs h rest : Bytes} (hs : scanNl bs = some (h, rest)) :
    readRecord lim bs = readBody lim h rest := by
  cases bs with
  | nil => cases hs
  | cons b bs =>
    rw [readRecord_eq, hs]
    rfl

theorem readRecord_of_none {lim : Nat} {bs : Bytes} (hs : scanNl bs = none) (hne : bs ≠ []) :
    readRecord lim bs = if bs.length > lim then .overrun else .incomplete := by
  rw [readRecord_eq, hs, List.isEmpty_eq_false_iff.2 hne]
  rfl

theorem readRecord_append (lim : Nat) (bs x : Bytes) :
    match readRecord lim bs with
    | .ok r t => t.length < bs.length ∧ readRecord lim (bs ++ x) = .ok r (t ++ x)
    | .bad => readRecord lim (bs ++ x) = .bad
    | .overrun => readRecord lim (bs ++ x) = .overrun
    | .incomplete => bs ≠ []
    | .eof => bs = [] := by
  by_cases hne : bs = []
  · rw [hne]
    rfl
  have hsc := scanNl_append_eq bs x
  cases hs : scanNl bs with
  | some p =>
    obtain ⟨h, rest⟩ := p
    rw [hs] at hsc
    have hlen := congrArg List.length (scanNl_split hs)
    rw [List.length_append, List.length_cons] at hlen
    have := readBody_append lim h rest x
    rw [readRecord_of_some hs, readRecord_of_some hsc]
    cases hb : readBody lim h rest with
    | ok r t => rw [hb] at this; exact ⟨by omega, this.2⟩
    | eof => rw [hb] at this; exact this.elim
    | incomplete => exact hne
    | _ => rw [hb] at this; exact this
  | none =>
    rw [hs] at hsc
    rw [readRecord_of_none hs hne]
    by_cases hl : bs.length > lim
    · -- too long already: with or without a newline in `x`
      have long : ∀ y : Bytes, (bs ++ y).length > lim := fun y =>
        List.length_append ▸ Nat.lt_of_lt_of_le hl (Nat.le_add_right _ _)
      rw [if_pos hl]
      cases hx : scanNl x with
      | none =>
        rw [hx] at hsc
        rw [readRecord_of_none hsc (List.append_ne_nil_of_left_ne_nil hne _), if_pos (long x)]
      | some p =>
        rw [hx] at hsc
        rw [readRecord_of_some hsc, readBody, if_pos (long p.1)]
    · rw [if_neg hl]
      exact hne

/-- the header line without its newline -/
def headerLine (r : Rec) : Bytes := r.rid ++ SP :: (toDec r.payload.length ++ SP :: r.enc.name)

theorem encodeRecord_eq (r : Rec) (rest : Bytes) :
    encodeRecord r ++ rest = headerLine r ++ NL :: (r.payload ++ rest) := by
  simp only [encodeRecord, header, headerLine, List.append_assoc, List.cons_append, List.nil_append]

def WellFormed (lim : Nat) (r : Rec) : Prop := wellFormedId r.rid ∧ (headerLine r).length ≤ lim

theorem headerLine_tok (r : Rec) (hw : wellFormedId r.rid) : ∀ b ∈ headerLine r, b = SP ∨ isTok b = true := by
  intro b hb
  simp only [headerLine, List.mem_append, List.mem_cons] at hb
  rcases hb with hb | hb | hb | hb | hb
  · exact .inr (hw.2 b hb)
  · exact .inl hb
  · exact .inr (isTok_of_isDigit (toDec_digits _ b hb))
  · exact .inl hb
  · exact .inr ((enc_name_tok r.enc).2 b hb)

theorem headerLine_props (r : Rec) (hw : wellFormedId r.rid) :
    (∀ b ∈ headerLine r, b ≠ NL) ∧ (headerLine r).any (fun b => decide (b.toNat ≥ 128)) = false := by
  have hSP : SP ≠ NL ∧ SP.toNat < 128 := by decide
  refine ⟨fun b hb => ?_, List.any_eq_false.2 fun b hb => ?_⟩
  · rcases headerLine_tok r hw b hb with rfl | h
    · exact hSP.1
    · exact (isTok_props h).2.1
  · rcases headerLine_tok r hw b hb with rfl | h
    · exact of_decide_eq_false rfl
    · have := (isTok_props h).2.2
      rw [decide_eq_true_eq]
      omega

theorem splitWs_headerLine (r : Rec) (hw : wellFormedId r.rid) :
    splitWs (headerLine r) = [r.rid, toDec r.payload.length, r.enc.name] :=
  splitWs_three hw.1 (toDec_ne_nil _) (enc_name_tok r.enc).1
    (fun x hx => (isTok_props (hw.2 x hx)).1)
    (fun x hx => (isTok_props (isTok_of_isDigit (toDec_digits _ x hx))).1)
    (fun x hx => (isTok_props ((enc_name_tok r.enc).2 x hx)).1)

theorem readBody_headerLine (lim : Nat) (r : Rec) (hw : WellFormed lim r) (rest : Bytes) :
    readBody lim (headerLine r) rest = readPayload r.rid r.payload.length r.enc.name rest := by
  have h1 : ¬ (headerLine r).length > lim := Nat.not_lt.2 hw.2
  simp only [readBody, if_neg h1, (headerLine_props r hw.1).2, splitWs_headerLine r hw.1, parseDec_toDec,
    Bool.false_eq_true, if_false]

theorem readRecord_encode (lim : Nat) (r : Rec) (rest : Bytes) (hw : WellFormed lim r) :
    readRecord lim (encodeRecord r ++ rest) = .ok r rest := by
  have hscan : scanNl (encodeRecord r ++ rest) = some (headerLine r, r.payload ++ rest) := by
    rw [encodeRecord_eq]
    exact scanNl_append (headerLine_props r hw.1).1
  have hlen : ¬ (r.payload ++ rest).length < r.payload.length := by
    rw [List.length_append]
    exact Nat.not_lt.2 (Nat.le_add_right _ _)
  rw [readRecord_of_some hscan, readBody_headerLine lim r hw, readPayload, if_neg hlen, parseEnc_name,
    List.take_left' rfl, List.drop_left' rfl]

theorem readRecord_prefix (lim : Nat) (r : Rec) (hw : WellFormed lim r) (p q : Bytes)
    (hpq : encodeRecord r = p ++ q) (hp : p ≠ []) (hq : q ≠ []) : readRecord lim p = .incomplete := by
  have hnl := (headerLine_props r hw.1).1
  have henc := encodeRecord_eq r []
  rw [List.append_nil, List.append_nil, hpq] at henc
  -- where `p` ends inside the header line
  have inside : ∀ a', headerLine r = p ++ a' → readRecord lim p = .incomplete := by
    intro a' ha
    have hl : ¬ p.length > lim := by
      have := congrArg List.length ha
      rw [List.length_append] at this
      have := hw.2
      omega
    rw [readRecord_of_none (scanNl_none p fun b hb => hnl b (ha ▸ List.mem_append_left _ hb)) hp, if_neg hl]
  rcases List.append_eq_append_iff.mp henc with ⟨a', h1, _⟩ | ⟨a', h1, h2⟩
  · exact inside a' h1
  · cases a' with
    | nil => exact inside [] (by rw [h1, List.append_nil, List.append_nil])
    | cons b a'' =>
      -- `p` holds the whole header line, its newline, and `a''`, less than the payload
      rw [List.cons_append, List.cons.injEq] at h2
      obtain ⟨rfl, hpay⟩ := h2
      have hshort : a''.length < r.payload.length := by
        have := congrArg List.length hpay
        rw [List.length_append] at this
        have := List.length_pos_iff.mpr hq
        omega
      rw [h1, readRecord_of_some (scanNl_append hnl), readBody_headerLine lim r hw, readPayload,
        if_pos hshort]

end Frame
