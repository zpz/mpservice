import MpsVerif.Proofs.IterQueueInv
import MpsVerif.Proofs.IterQueueTime
/-!
# Progress and measure for the consumers of the `IterableQueue` model

With all suppliers ended and no stop requested, some consumer can move until every iteration has
ended; every real move of a consumer lowers `mu`, and nothing but suppliers and `renew` raises it.
-/
namespace IterQueue

/-- the real (non-stutter) moves of a consumer -/
def isConsMove : Act → Bool
  | .cChk1 _ | .cGet _ | .cChk2 _ | .cReput _ | .cLock _ | .cTake _ | .cGive _ | .cTest _ | .cUnlock _
  | .cExtra _ => true
  | _ => false

def isSupAct : Act → Bool
  | .sPutBeg _ _ | .sPut _ | .sEndBeg _ | .sApply _ | .sMark _ | .sRetry _ | .sStop _ => true
  | _ => false

def isRenewAct : Act → Bool
  | .rStart | .rGet => true
  | _ => false

def CPc.rank : CPc → Nat
  | .give => 20 | .test => 19 | .unl _ => 18 | .extra => 17 | .chk1 => 17 | .get => 16 | .chk2 => 15
  | .lock => 14 | .reput => 14 | .take => 13 | .done => 0 | .stopped => 0

/-- work left for the consumers: position in `__next__`, values still queued, tokens still applied.
    The weights pay for the rank that goes up when a value is received (`get → chk1`) or a token taken
    (`take → give`). -/
def mu (s : State) : Nat :=
  wsum (fun a : Con => a.pc.rank) s.cons + 2 * (itemsOf s.queue).length + 20 * s.applied

theorem mu_setC {s s' : State} {j n : Nat} {a b : Con} (h : s.cons[j]? = some a) (e : s'.cons = s.cons.set j b)
    (hd : b.pc.rank + 2 * (itemsOf s'.queue).length + 20 * s'.applied + n
            ≤ a.pc.rank + 2 * (itemsOf s.queue).length + 20 * s.applied) :
    mu s' + n ≤ mu s := by
  have h1 := wsum_eraseIdx (fun a : Con => a.pc.rank) h
  have h2 := wsum_set (fun a : Con => a.pc.rank) h b
  unfold mu
  rw [e]
  omega

macro "mufin" h:ident hpc:ident : tactic => `(tactic| (
  have hge := rank_ge $h
  simp only [mu, rank_set $h, itemsOf_append_mark, isConsMove]
  simp only [$hpc:ident, CPc.rank, itemsOf, List.length_cons] at hge ⊢
  refine ⟨?_, ?_⟩ <;> first | omega | (intro _; omega)))

theorem mu_step {c : Cfg} {s s' : State} {a : Act} (hs : Step c s a s')
    (h1 : isSupAct a = false) (h2 : isRenewAct a = false) :
    mu s' + (if isConsMove a then 1 else 0) ≤ mu s := by
  cases hs with
  | sPutBeg | sPut | sEndBeg | sApply | sMark | sRetry | sStop => cases h1
  | rStartOk | rStartFail | rGetMark | rGetItem => cases h2
  | rRetry | rStop | setStop | tick => exact Nat.le_refl _
  | cChk1Full j a h hpc | cChk1Go j a h hpc | cChk2Full j a h hpc | cChk2Go j a h hpc | cLock j a h hpc
  | cTake j a h hpc | cGive j a h hpc | cTest j a h hpc | cUnlockLast j a h hpc | cUnlockGo j a h hpc =>
    exact mu_setC (n := 1) h rfl (by rw [hpc]; dsimp only [CPc.rank]; omega)
  | cGetItem j i x rest a h hpc hq =>
    exact mu_setC (n := 1) h rfl (by rw [hpc, hq]; dsimp only [CPc.rank, itemsOf, List.length_cons]; omega)
  | cGetMark j rest a h hpc hq =>
    exact mu_setC (n := 1) h rfl (by rw [hpc, hq]; dsimp only [CPc.rank, itemsOf]; omega)
  | cReput j a h hpc | cExtra j a h hpc =>
    exact mu_setC (n := 1) h rfl (by rw [hpc]; dsimp only [CPc.rank]; rw [itemsOf_append_mark]; omega)
  | cRetry j a h => exact mu_setC (n := 0) h rfl (Nat.le_refl _)
  | cStop j a h => exact mu_setC (n := 0) h rfl (by dsimp only [CPc.rank]; omega)

theorem moves_le_mu {c : Cfg} {as : List Act} {s s' : State} (hr : Core.run (step c) s as = some s')
    (hall : ∀ a ∈ as, isSupAct a = false ∧ isRenewAct a = false) : as.countP isConsMove + mu s' ≤ mu s :=
  Core.countP_le_measure mu isConsMove (fun _ => True) (fun a => isSupAct a = false ∧ isRenewAct a = false)
    (fun _ _ _ _ _ _ => trivial)
    (fun s a s' _ hok hs => mu_step (step_sound c s s' a hs) hok.1 hok.2) as s s' trivial hall hr

theorem enabled_strong {c : Cfg} {s : State} (hi : Inv c s) {j : Nat} {a : Con} (h : s.cons[j]? = some a)
    (hp : a.pc ≠ .get ∧ a.pc ≠ .lock ∧ a.pc ≠ .done ∧ a.pc ≠ .stopped) :
    ∃ act, isConsMove act = true ∧ (step c s act).isSome = true := by
  cases hpc : a.pc with
  | chk1 =>
    refine ⟨.cChk1 j, rfl, ?_⟩
    simp only [step, h, hpc]; cases usedFull c s <;> simp
  | get => exact absurd hpc hp.1
  | chk2 =>
    refine ⟨.cChk2 j, rfl, ?_⟩
    simp only [step, h, hpc]; cases usedFull c s <;> simp
  | reput =>
    have := room_of_empty c (put_none_room hi h (Or.inl hpc))
    exact ⟨.cReput j, rfl, by simp [step, h, hpc, this]⟩
  | lock => exact absurd hpc hp.2.1
  | take =>
    have : 0 < s.applied := (hi.numC h hpc).applied_pos
    exact ⟨.cTake j, rfl, by simp [step, h, hpc, this]⟩
  | give =>
    have : s.used < c.m := (hi.numC h hpc).used_lt
    exact ⟨.cGive j, rfl, by simp [step, h, hpc, this]⟩
  | test => exact ⟨.cTest j, rfl, by simp [step, h, hpc]⟩
  | unl b => cases b <;> exact ⟨.cUnlock j, rfl, by simp [step, h, hpc]⟩
  | extra =>
    have := room_of_empty c (put_none_room hi h (Or.inr hpc))
    exact ⟨.cExtra j, rfl, by simp [step, h, hpc, this]⟩
  | done => exact absurd hpc hp.2.2.1
  | stopped => exact absurd hpc hp.2.2.2

theorem enabled_of_pos {c : Cfg} {s : State} (hi : Inv c s) (q : CPc → Bool)
    (h1 : q .get = false) (h2 : q .lock = false) (h3 : q .done = false) (h4 : q .stopped = false)
    (hpos : 0 < cntC q s.cons) : ∃ act, isConsMove act = true ∧ (step c s act).isSome = true := by
  obtain ⟨k, b, hk, hb⟩ := exists_of_cntC_pos hpos
  have ne : ∀ p, q p = false → b.pc ≠ p := fun p hp e => by rw [e, hp] at hb; cases hb
  exact enabled_strong hi hk ⟨ne _ h1, ne _ h2, ne _ h3, ne _ h4⟩

/-- a consumer waiting for the lock: either the lock is free, or its holder can move -/
theorem enabled_lock {c : Cfg} {s : State} (hi : Inv c s) {j : Nat} {a : Con} (h : s.cons[j]? = some a)
    (hpc : a.pc = .lock) : ∃ act, isConsMove act = true ∧ (step c s act).isSome = true := by
  cases hl : s.lock with
  | false => exact ⟨.cLock j, rfl, by simp [step, h, hpc, hl]⟩
  | true =>
    have hmx : cntC CPc.isTake s.cons + cntC CPc.isGive s.cons + cntC CPc.isTest s.cons
        + cntC CPc.isUnlT s.cons + cntC CPc.isUnlF s.cons = ind s.lock := hi.num.mutex
    rw [hl, ind_true] at hmx
    have : 0 < cntC CPc.isTake s.cons ∨ 0 < cntC CPc.isGive s.cons ∨ 0 < cntC CPc.isTest s.cons
        ∨ 0 < cntC CPc.isUnlT s.cons ∨ 0 < cntC CPc.isUnlF s.cons := by omega
    rcases this with g | g | g | g | g <;> exact enabled_of_pos hi _ rfl rfl rfl rfl g

/-- **Progress.**  All suppliers have ended, no stop was requested, and some consumer's iteration
    has not ended: then some consumer can make a real move. -/
theorem cons_progress {c : Cfg} {s : State} (hi : Inv c s) (ht : TInv c s)
    (hstop : s.stop = none) (hsup : ∀ a ∈ s.sups, a.pc = .ended)
    (hnd : ∃ a ∈ s.cons, a.pc ≠ .done) :
    ∃ act, isConsMove act = true ∧ (step c s act).isSome = true := by
  -- a consumer that is not blocked in `get` can move, or the holder of the lock it waits for can
  by_cases hex : ∃ (k : Nat) (b : Con), s.cons[k]? = some b ∧ b.pc ≠ .get ∧ b.pc ≠ .done ∧ b.pc ≠ .stopped
  · obtain ⟨k, b, hk, h1, h2, h3⟩ := hex
    by_cases hl : b.pc = .lock
    · exact enabled_lock hi hk hl
    · exact enabled_strong hi hk ⟨h1, hl, h2, h3⟩
  -- otherwise the one that is not `done` is in `get`, and the data queue is not empty
  obtain ⟨a, ha, hnd⟩ := hnd
  obtain ⟨j, h⟩ := List.mem_iff_getElem?.mp ha
  have hg : a.pc = .get := Classical.byContradiction fun hg =>
    hex ⟨j, a, h, hg, hnd, fun hp => (ht.con a ha).stopReq (by rw [hp]; rfl) hstop⟩
  cases hq : s.queue with
  | cons x rest =>
    refine ⟨.cGet j, rfl, ?_⟩
    cases x <;> simp [step, h, hg, hq]
  | nil =>
    -- with all suppliers ended, nobody on the way and an empty queue the token set is complete and
    -- the winner is missing
    exfalso
    have hidle : ∀ b ∈ s.cons, b.pc = .chk1 ∨ b.pc = .get ∨ b.pc = .done ∨ b.pc = .stopped := by
      intro b hb
      obtain ⟨k, hk⟩ := List.mem_iff_getElem?.mp hb
      refine Classical.byContradiction fun hne => hex ⟨k, b, hk, ?_, ?_, ?_⟩
      · exact fun e => hne (.inr (.inl e))
      · exact fun e => hne (.inr (.inr (.inl e)))
      · exact fun e => hne (.inr (.inr (.inr e)))
    obtain ⟨d, hd⟩ := ccount_idle hidle
    have hn : Num c.m { tally s with C := ⟨0, 0, 0, 0, 0, 0, 0, 0, 0, d⟩ } := by
      rw [← hd]; exact hi.num
    exact hn.not_idle (scount_ended hsup) (congrArg marksOf hq)

def CPc.acts (j : Nat) : CPc → List Act
  | .chk1 => [.cChk1 j]
  | .get => [.cGet j, .cRetry j, .cStop j]
  | .chk2 => [.cChk2 j]
  | .reput => [.cReput j, .cRetry j, .cStop j]
  | .lock => [.cLock j]
  | .take => [.cTake j]
  | .give => [.cGive j]
  | .test => [.cTest j]
  | .unl _ => [.cUnlock j]
  | .extra => [.cExtra j, .cRetry j, .cStop j]
  | .done | .stopped => []

theorem step_keeps_con {c : Cfg} {s s' : State} {act : Act} {j : Nat} {a : Con} (hs : Step c s act s')
    (h : s.cons[j]? = some a) (hact : act ∉ a.pc.acts j) (hr : s.rpc ≠ .get) : s'.cons[j]? = some a := by
  have keep : ∀ (k : Nat) (b : Con), k ≠ j → (s.cons.set k b)[j]? = some a :=
    fun k b hk => (List.getElem?_set_ne hk).trans h
  cases hs with
  | cChk1Full k b hb hbp | cChk1Go k b hb hbp | cGetItem k _ _ _ b hb hbp | cGetMark k _ b hb hbp
  | cChk2Full k b hb hbp | cChk2Go k b hb hbp | cReput k b hb hbp | cLock k b hb hbp | cTake k b hb hbp
  | cGive k b hb hbp | cTest k b hb hbp | cUnlockLast k b hb hbp | cUnlockGo k b hb hbp
  | cExtra k b hb hbp =>
    refine keep k _ fun e => hact ?_
    subst e
    cases hb.symm.trans h
    rw [hbp]
    simp [CPc.acts]
  | cRetry k b hb hw | cStop k b hb hw =>
    refine keep k _ fun e => hact ?_
    subst e
    cases hb.symm.trans h
    cases hp : a.pc with
    | get | reput | extra => simp [CPc.acts]
    | _ => rw [hp] at hw; cases hw
  | rGetMark _ hrg => exact absurd hrg hr
  | _ => exact h

theorem sup_disabled (c : Cfg) {s : State} (hsup : ∀ a ∈ s.sups, a.pc = .ended) {act : Act}
    (hact : isSupAct act = true) : step c s act = none := by
  have key : ∀ (i : Nat) (a : Sup), s.sups[i]? = some a → a.pc = .ended :=
    fun i a h => hsup a (List.mem_of_getElem? h)
  cases act with
  | sPutBeg i | sPut i | sEndBeg i | sApply i | sMark i | sRetry i | sStop i =>
    simp only [step]
    split
    · rename_i a h; simp [key _ a h, SPc.waiting]
    · rfl
  | _ => cases hact

theorem sups_unchanged {c : Cfg} {s s' : State} {act : Act} (hs : Step c s act s')
    (h1 : isSupAct act = false) (h2 : isRenewAct act = false) : s'.sups = s.sups := by
  cases hs with
  | sPutBeg | sPut | sEndBeg | sApply | sMark | sRetry | sStop => cases h1
  | rGetMark => cases h2
  | _ => rfl

/-- Once all suppliers have ended, in any continuation without a `renew` action the consumers make at
    most `mu s` real moves: supplier actions cannot occur, and nothing else raises `mu`. -/
theorem moves_le_mu_ended {c : Cfg} {as : List Act} {s s' : State} (hr : Core.run (step c) s as = some s')
    (hsup : ∀ a ∈ s.sups, a.pc = .ended) (hall : ∀ a ∈ as, isRenewAct a = false) :
    as.countP isConsMove + mu s' ≤ mu s ∧ (∀ a ∈ s'.sups, a.pc = .ended) := by
  have hns : ∀ s a s', (∀ b ∈ s.sups, b.pc = .ended) → step c s a = some s' → isSupAct a = false := by
    intro s a s' hsup hs
    cases hsa : isSupAct a with
    | false => rfl
    | true => rw [sup_disabled c hsup hsa] at hs; cases hs
  have hinv : ∀ s a s', (∀ b ∈ s.sups, b.pc = .ended) → isRenewAct a = false → step c s a = some s' →
      ∀ b ∈ s'.sups, b.pc = .ended := by
    intro s a s' hsup h2 hs
    rw [sups_unchanged (step_sound c s s' a hs) (hns s a s' hsup hs) h2]
    exact hsup
  exact ⟨Core.countP_le_measure mu isConsMove _ _ hinv
    (fun s a s' hsup h2 hs => mu_step (step_sound c s s' a hs) (hns s a s' hsup hs) h2)
    as s s' hsup hall hr, Core.invariant_run_ok hinv as s s' hsup hall hr⟩

end IterQueue
