import MpsVerif.Proofs.ProcOutcomeInv
/-! Progress and termination measure of the `ProcOutcome` model. -/
namespace ProcOutcome

def crank : CPc → Nat
  | .boot => 5 | .target => 4 | .send1 => 3 | .send2 => 2 | .closing => 1 | .exited => 0

def krank : KPc → Nat
  | .recv1 => 7 | .recv2 => 6 | .eof => 5 | .waitExit => 4 | .endLog => 3 | .joinLog => 2
  | .resolve => 1 | .done => 0

def mu (s : State) : Nat := crank s.cpc + krank s.kpc + (if s.logStopped then 0 else 1)

theorem crank_pos {pc : CPc} (h : pc ≠ .exited) : crank .exited < crank pc := by
  cases pc with
  | exited => exact absurd rfl h
  | _ => exact Nat.succ_pos _

variable {s : State}

theorem mu_child {pc₀ pc n p w e k} (h₀ : s.cpc = pc₀) (h : crank pc < crank pc₀) :
    mu { s with cpc := pc, sent := n, pipe := p, wclosed := w, exitcode := e, killed := k } + 1
      ≤ mu s :=
  Nat.add_lt_add_right (Nat.add_lt_add_right (h₀ ▸ h) _) _

theorem mu_coll {k₀ p k r e t l f} (h₀ : s.kpc = k₀) (h : krank k < krank k₀) :
    mu { s with pipe := p, kpc := k, result := r, error := e, terminated := t, logEnd := l,
                fut := f } + 1 ≤ mu s :=
  Nat.add_lt_add_right (Nat.add_lt_add_left (h₀ ▸ h) _) _

theorem mu_step {c : Cfg} {s s' : State} {a : Act} (h : step c s a = some s') :
    mu s' + (if !a.isAsk then 1 else 0) ≤ mu s := by
  cases a
  case kRecv =>
    obtain ⟨m, rest, _, ⟨hpc, rfl⟩ | ⟨hpc, rfl⟩⟩ := step_kRecv h
    · exact mu_coll hpc (by decide)
    · exact mu_coll hpc (by decide)
  case kEofCode =>
    obtain ⟨hpc, x, _, rfl⟩ := step_kEofCode h
    exact mu_coll hpc (by decide)
  -- every other action is a guarded update
  all_goals obtain ⟨hg, rfl⟩ := Option.ite_some_none_eq_some.mp h
  case ask => exact Nat.le_refl _
  case logStop =>
    simp only [mu, hg.2]
    exact Nat.le_refl _
  case cBoot | cTargetEnd | cExit => exact mu_child hg (by decide)
  case cSend1 | cSend2 => exact mu_child hg.1 (by decide)
  case cSendFail => exact hg.elim (fun hg => mu_child hg.1 (by decide)) (fun hg => mu_child hg.1 (by decide))
  case kill => exact mu_child rfl (crank_pos hg.1)
  case kEof => exact hg.1.elim (fun hpc => mu_coll hpc (by decide)) (fun hpc => mu_coll hpc (by decide))
  case kSentinel | kJoinLog => exact mu_coll hg.1 (by decide)
  case kPutEnd | kResolve => exact mu_coll hg (by decide)

theorem work_le_measure (c : Cfg) (as : List Act) (s s' : State)
    (hr : Core.run (step c) s as = some s') :
    (as.filter (fun a => !a.isAsk)).length + mu s' ≤ mu s := by
  rw [← List.countP_eq_length_filter]
  exact Core.countP_le_measure mu _ (fun _ => True) (fun _ => True) (fun _ _ _ _ _ _ => trivial)
    (fun _ _ _ _ _ h => mu_step h) as s s' trivial (fun _ _ => trivial) hr

theorem enabled_of_guard {σ : Type} {p : Prop} [Decidable p] {x : σ} (h : p) :
    (if p then some x else none).isSome = true := by
  rw [if_pos h]
  rfl

theorem progress_of_inv (c : Cfg) (s : State) (hi : Inv c s) (hnf : ¬ Final s) :
    ∃ a, a.isAsk = false ∧ a.isKill = false ∧ (step c s a).isSome = true := by
  cases hcp : s.cpc with
  | boot => exact ⟨.cBoot, rfl, rfl, enabled_of_guard hcp⟩
  | target => exact ⟨.cTargetEnd, rfl, rfl, enabled_of_guard hcp⟩
  | send1 =>
    cases hcan : canSend1 c.outcome with
    | true => exact ⟨.cSend1, rfl, rfl, enabled_of_guard ⟨hcp, hcan⟩⟩
    | false => exact ⟨.cSendFail, rfl, rfl, enabled_of_guard (.inl ⟨hcp, hcan⟩)⟩
  | send2 =>
    cases hcan : canSend2 c.outcome with
    | true => exact ⟨.cSend2, rfl, rfl, enabled_of_guard ⟨hcp, hcan⟩⟩
    | false => exact ⟨.cSendFail, rfl, rfl, enabled_of_guard (.inr ⟨hcp, hcan⟩)⟩
  | closing => exact ⟨.cExit, rfl, rfl, enabled_of_guard hcp⟩
  | exited =>
    obtain ⟨hw, hcode, _⟩ := hi.child.exited hcp
    have hk := hi.coll.pc
    cases hkp : s.kpc with
    | recv1 =>
      cases hpp : s.pipe with
      | nil => exact ⟨.kEof, rfl, rfl, enabled_of_guard ⟨.inl hkp, hpp, hw⟩⟩
      | cons m rest => exact ⟨.kRecv, rfl, rfl, by simp only [step, hkp, hpp]; rfl⟩
    | recv2 =>
      cases hpp : s.pipe with
      | nil => exact ⟨.kEof, rfl, rfl, enabled_of_guard ⟨.inr hkp, hpp, hw⟩⟩
      | cons m rest => exact ⟨.kRecv, rfl, rfl, by simp only [step, hkp, hpp]; rfl⟩
    | eof =>
      refine ⟨.kEofCode, rfl, rfl, ?_⟩
      simp only [step, hkp, hcode, if_true]
      split <;> rfl
    | waitExit => exact ⟨.kSentinel, rfl, rfl, enabled_of_guard ⟨hkp, hcp⟩⟩
    | endLog => exact ⟨.kPutEnd, rfl, rfl, enabled_of_guard hkp⟩
    | joinLog =>
      cases hls : s.logStopped with
      | true => exact ⟨.kJoinLog, rfl, rfl, enabled_of_guard ⟨hkp, .inl hls⟩⟩
      | false =>
        rw [hkp] at hk
        exact ⟨.logStop, rfl, rfl, enabled_of_guard ⟨hk.2.2, hls⟩⟩
    | resolve => exact ⟨.kResolve, rfl, rfl, enabled_of_guard hkp⟩
    | done => exact absurd ⟨hcp, hkp⟩ hnf

theorem final_answers (c : Cfg) (s : State) (hi : Inv c s) (hf : Final s) (a : Acc) :
    canAnswer a s = true := by
  have h5 := (hi.child.exited hf.1).2.1
  have h6 := hi.coll.fut.trans (if_pos hf.2)
  cases a <;> simp [canAnswer, h5, h6, hf.2]

end ProcOutcome
