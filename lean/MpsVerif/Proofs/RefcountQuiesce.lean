import MpsVerif.Proofs.RefcountInv
/-!
# The server gives its temporaries back on its own (no client action needed)

`quiesce` (Model/Refcount.lean) is a run of server-internal `drop .temp` steps; with fuel
`refs.length` it ends in a state without temporaries, and it never touches a client's proxies,
a pickle in transit or — except by destroying a dead container — a nested proxy.
-/
namespace Refcount

theorem decref_refs_length (t : State) (i : Nat) : (decref t i).refs.length = t.refs.length := by
  rcases Nat.lt_or_ge 1 (t.rc i) with h | h
  · rw [decref_of_lt h]
  · rw [decref_of_le h]
    exact List.length_map _

/-- a holder is of exactly one of the four classes -/
theorem holder_class (h : Holder) (b : Bool) :
    (if b then 1 else 0 : Nat) =
      (if h.isClient && b then 1 else 0) + (if h.isTransit && b then 1 else 0) +
      (if h.isNested && b then 1 else 0) + (if h.isTemp && b then 1 else 0) := by
  cases h <;> cases b <;> rfl

theorem cnt_partition (l : List Ref) (i : Nat) :
    l.countP (fun r => r.2 == i) =
      l.countP (fun r => Holder.isClient r.1 && r.2 == i) +
      l.countP (fun r => Holder.isTransit r.1 && r.2 == i) +
      l.countP (fun r => Holder.isNested r.1 && r.2 == i) +
      l.countP (fun r => Holder.isTemp r.1 && r.2 == i) := by
  induction l with
  | nil => rfl
  | cons r l ih =>
    simp only [List.countP_cons, ih]
    have := holder_class r.1 (r.2 == i)
    omega

/-- holder classes that neither `erase (.temp, _)` nor `orphan` can change -/
def Stable (f : Holder → Bool) : Prop := f .temp = false ∧ ∀ c, f (.item c) = false

theorem countP_orphan_stable {f : Holder → Bool} (hf : Stable f) (c i : Nat) (l : List Ref) :
    (l.map (orphan c)).countP (fun r => f r.1 && r.2 == i) = l.countP (fun r => f r.1 && r.2 == i) := by
  rw [List.countP_map]
  congr 1
  funext r
  simp only [Function.comp, orphan]
  split
  · rename_i h; simp [h, hf.1, hf.2]
  · rfl

theorem cnt_decref_stable {f : Holder → Bool} (hf : Stable f) (t : State) (x i : Nat) :
    cnt f (decref t x) i = cnt f t i := by
  rcases Nat.lt_or_ge 1 (t.rc x) with h | h
  · rw [decref_of_lt h]
    rfl
  · rw [decref_of_le h]
    exact countP_orphan_stable hf x i t.refs

theorem cnt_dropTemp_stable {f : Holder → Bool} (hf : Stable f) {s s' : State} {x : Nat}
    (hs : step s (.drop .temp x) = some s') (i : Nat) : cnt f s' i = cnt f s i := by
  obtain ⟨hg, hs⟩ := Option.ite_none_right_eq_some.mp hs
  cases hs
  rw [cnt_decref_stable hf]
  have := countP_erase_mem (fun r : Ref => f r.1 && r.2 == i) hg.1
  rw [show f Holder.temp = false from hf.1] at this
  exact this

theorem stable_isClient : Stable Holder.isClient := ⟨rfl, fun _ => rfl⟩
theorem stable_isTransit : Stable Holder.isTransit := ⟨rfl, fun _ => rfl⟩

theorem temps_eq_zero {s : State} (h : ∀ r ∈ s.refs, r.1 ≠ .temp) (i : Nat) : temps s i = 0 := by
  refine List.countP_eq_zero.mpr fun r hr hp => h r hr ?_
  cases hh : r.1 <;> simp [hh, Holder.isTemp] at hp ⊢

theorem dropTemp_enabled {s : State} (h : Inv s) {i : Nat} (hm : (Holder.temp, i) ∈ s.refs) :
    ∃ s', step s (.drop .temp i) = some s' ∧ s'.refs.length + 1 = s.refs.length := by
  refine ⟨_, step_drop hm (pos_of_mem h hm) (Or.inl rfl), ?_⟩
  rw [decref_refs_length]
  show (s.refs.erase (.temp, i)).length + 1 = _
  rw [List.length_erase_of_mem hm]
  exact Nat.sub_add_cancel (List.length_pos_of_mem hm)

theorem quiesce_spec : ∀ (n : Nat) (s : State), Inv s → s.refs.length ≤ n →
    ∃ as, (∀ a ∈ as, serverInternal a = true) ∧ as.length ≤ s.refs.length ∧
      Core.run step s as = some (quiesce n s) ∧
      (∀ r ∈ (quiesce n s).refs, r.1 ≠ .temp) ∧
      (∀ (f : Holder → Bool), Stable f → ∀ i, cnt f (quiesce n s) i = cnt f s i) := by
  intro n
  induction n with
  | zero =>
    intro s _ hn
    have hnil : s.refs = [] := List.eq_nil_of_length_eq_zero (Nat.le_zero.mp hn)
    refine ⟨[], fun _ h => absurd h List.not_mem_nil, Nat.zero_le _, rfl, ?_, fun _ _ _ => rfl⟩
    show ∀ r ∈ s.refs, r.1 ≠ .temp
    rw [hnil]
    exact fun _ h => absurd h List.not_mem_nil
  | succ n ih =>
    intro s hinv hn
    unfold quiesce
    cases hf : s.refs.find? (fun r => r.1 == .temp) with
    | none =>
      refine ⟨[], fun _ h => absurd h List.not_mem_nil, Nat.zero_le _, rfl, fun r hr => ?_, fun _ _ _ => rfl⟩
      simpa using List.find?_eq_none.mp hf r hr
    | some r =>
      have ht : r.1 = .temp := by simpa using List.find?_some hf
      have hm : (Holder.temp, r.2) ∈ s.refs := ht ▸ List.mem_of_find?_eq_some hf
      obtain ⟨s', hs', hlen⟩ := dropTemp_enabled hinv hm
      have hn' : s'.refs.length ≤ n := Nat.le_of_succ_le_succ (hlen.symm ▸ hn : _ + 1 ≤ _)
      obtain ⟨as, h1, h2, h3, h4, h5⟩ := ih s' (inv_step hinv hs') hn'
      simp only [hs']
      refine ⟨.drop .temp r.2 :: as, ?_, ?_, ?_, h4, ?_⟩
      · intro a ha
        rcases List.mem_cons.mp ha with rfl | ha
        · rfl
        · exact h1 a ha
      · rw [← hlen]
        exact Nat.succ_le_succ h2
      · rw [Core.run_cons, hs']
        exact h3
      · intro f hf' i
        rw [h5 f hf' i, cnt_dropTemp_stable hf' hs' i]

end Refcount
