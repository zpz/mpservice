import MpsVerif.Proofs.FifoStep
/-! Invariants of the `fifo_stream` model.

Every step belongs to one of three threads (feeder, pool worker, consumer) and rewrites only that
thread's fields.  Where all steps of a thread preserve an invariant for the same reason, that reason
is a lemma about an arbitrary update of those fields (`… .feeder`, `… .mono`), and the proof by
cases on `Step` only supplies the program counter. -/
namespace Fifo

def fIdx : FPc → List Nat
  | .check i => [i] | .sub i => [i] | .hold i => [i] | _ => []
def cIdx : CPc → List Nat
  | .wait i => [i] | _ => []
def qidx : List QItem → List Nat
  | [] => []
  | .item i :: r => i :: qidx r
  | _ :: r => qidx r
def marks : List QItem → Nat
  | [] => 0
  | .item _ :: r => marks r
  | _ :: r => marks r + 1

/-- the consumer is still iterating (has neither raised nor closed nor seen the end) -/
def CPc.active : CPc → Bool
  | .idle | .wait _ | .susp => true
  | _ => false

/-- the consumer is in its `finally` block or past it -/
def CPc.over : CPc → Bool
  | .drain | .join | .closed => true
  | _ => false

theorem CPc.over_of_active {p : CPc} (h : p.active = true) : p.over = false := by
  cases p <;> first | rfl | nomatch h

/-- what has been handed to the consumer: outputs, plus the element whose exception was raised -/
def rz : Option Raised → Nat
  | some (.item _) => 1 | _ => 0
def handed (s : State) : Nat := s.out.length + rz s.raised
@[simp] theorem rz_none : rz none = 0 := rfl
@[simp] theorem rz_src : rz (some .src) = 0 := rfl
@[simp] theorem rz_item (i : Nat) : rz (some (.item i)) = 1 := rfl

def fHold : FPc → Nat
  | .check _ => 1 | .sub _ => 1 | .hold _ => 1 | _ => 0
@[simp] theorem fHold_idle : fHold .idle = 0 := rfl
@[simp] theorem fHold_check (i : Nat) : fHold (.check i) = 1 := rfl
@[simp] theorem fHold_sub (i : Nat) : fHold (.sub i) = 1 := rfl
@[simp] theorem fHold_hold (i : Nat) : fHold (.hold i) = 1 := rfl
@[simp] theorem fHold_putEnd : fHold .putEnd = 0 := rfl
@[simp] theorem fHold_putExc : fHold .putExc = 0 := rfl
@[simp] theorem fHold_done : fHold .done = 0 := rfl

theorem length_fIdx (f : FPc) : (fIdx f).length = fHold f := by cases f <;> rfl
theorem length_cIdx_le (p : CPc) : (cIdx p).length ≤ 1 := by cases p <;> simp [cIdx]
theorem fHold_le (f : FPc) : fHold f ≤ 1 := by cases f <;> simp

@[simp] theorem qidx_append (q r : List QItem) : qidx (q ++ r) = qidx q ++ qidx r := by
  induction q with
  | nil => rfl
  | cons a q ih => cases a <;> simp [qidx, ih]

@[simp] theorem marks_append (q r : List QItem) : marks (q ++ r) = marks q + marks r := by
  induction q with
  | nil => simp [marks]
  | cons a q ih => cases a <;> simp [marks, ih] <;> omega

theorem qidx_marks_length (q : List QItem) : (qidx q).length + marks q = q.length := by
  induction q with
  | nil => rfl
  | cons a q ih => cases a <;> simp [qidx, marks] <;> omega

theorem qidx_length_le (q : List QItem) : (qidx q).length ≤ q.length := by
  have := qidx_marks_length q
  omega

theorem qidx_tail_sublist (x : QItem) (q : List QItem) : (qidx q).Sublist (qidx (x :: q)) := by
  cases x <;> simp [qidx]

theorem not_mem_of_marks_zero {q : List QItem} (hm : marks q = 0) {x : QItem} (hx : marks [x] = 1) :
    x ∉ q := by
  intro h
  obtain ⟨l, r, rfl⟩ := List.append_of_mem h
  rw [marks_append, ← List.singleton_append, marks_append, hx] at hm
  omega

/-- `toStop` is set only after the consumer has left the iteration; a consumer that has left with
    the flag still clear has seen the end mark, so the feeder is done. -/
structure PhaseInv (s : State) : Prop where
  over_of_stop : s.toStop = true → s.cpc.over = true
  done_of_over : s.cpc.over = true → s.toStop = false → s.fpc = .done
  not_raised : s.cpc.active = true → s.raised = none
  done_of_closed : s.cpc = .closed → s.fpc = .done
  no_mark : s.fpc ≠ .done → marks s.queue = 0
  one_mark : s.cpc.active = true → s.fpc = .done → marks s.queue = 1

theorem phase_init : PhaseInv init := ⟨nofun, nofun, fun _ => rfl, nofun, fun _ => rfl, nofun⟩

theorem PhaseInv.feeder {s : State} (h : PhaseInv s) (hnd : s.fpc ≠ .done) {f : FPc} (hf : f ≠ .done)
    {q : List QItem} (hq : marks q = marks s.queue) {p : Nat} {pe fi : List Nat} :
    PhaseInv { s with pulled := p, fpc := f, queue := q, pending := pe, finished := fi } :=
  ⟨h.over_of_stop, fun ho ht => absurd (h.done_of_over ho ht) hnd, h.not_raised, fun hc => absurd (h.done_of_closed hc) hnd,
   fun _ => hq.trans (h.no_mark hnd), fun _ hd => absurd hd hf⟩

theorem PhaseInv.feeder_done {s : State} (h : PhaseInv s) (hnd : s.fpc ≠ .done) {x : QItem}
    (hx : marks [x] = 1) : PhaseInv { s with fpc := .done, queue := s.queue ++ [x] } :=
  ⟨h.over_of_stop, fun _ _ => rfl, h.not_raised, fun _ => rfl, fun hd => absurd rfl hd,
   fun _ _ => by rw [marks_append, h.no_mark hnd, hx]⟩

theorem PhaseInv.iterate {s : State} (h : PhaseInv s) (ha : s.cpc.active = true) {cp : CPc}
    (ha' : cp.active = true) {q : List QItem} (hm : marks q = marks s.queue) {o : List Nat} :
    PhaseInv { s with queue := q, cpc := cp, out := o } :=
  ⟨fun ht => absurd (h.over_of_stop ht) (ne_true_of_eq_false (CPc.over_of_active ha)),
   fun ho => absurd ho (ne_true_of_eq_false (CPc.over_of_active ha')), fun _ => h.not_raised ha,
   (fun (hc : cp = .closed) => nomatch (hc ▸ ha' : CPc.closed.active = true)),
   fun hd => hm.trans (h.no_mark hd),
   fun _ hd => hm.trans (h.one_mark ha hd)⟩

theorem PhaseInv.stop {s : State} (h : PhaseInv s) (ha : s.cpc.active = true) {q : List QItem}
    (hm : marks q ≤ marks s.queue) {r : Option Raised} {cl : Bool} :
    PhaseInv { s with queue := q, cpc := .stopping, raised := r, closeReq := cl } :=
  ⟨fun ht => absurd (h.over_of_stop ht) (ne_true_of_eq_false (CPc.over_of_active ha)), nofun, nofun, nofun,
   fun hd => Nat.le_zero.mp (h.no_mark hd ▸ hm), nofun⟩

theorem PhaseInv.wind_up {s : State} (h : PhaseInv s) {cp : CPc} (ho : cp.over = true) {t : Bool}
    (h2 : t = false → s.fpc = .done) (h4 : cp = .closed → s.fpc = .done) {q : List QItem}
    (hm : marks q ≤ marks s.queue) {pe ca : List Nat} :
    PhaseInv { s with queue := q, toStop := t, cpc := cp, pending := pe, cancelled := ca } :=
  ⟨fun _ => ho, fun _ => h2, fun ha => absurd ho (ne_true_of_eq_false (CPc.over_of_active ha)), h4,
   fun hd => Nat.le_zero.mp (h.no_mark hd ▸ hm),
   fun ha => absurd ho (ne_true_of_eq_false (CPc.over_of_active ha))⟩

theorem marks_tail_le (x : QItem) (q : List QItem) : marks q ≤ marks (x :: q) := by
  cases x <;> simp [marks]

theorem PhaseInv.done_of_mark {s : State} (h : PhaseInv s) {x : QItem} {rest : List QItem}
    (hq : s.queue = x :: rest) (hx : marks [x] = 1) : s.fpc = .done :=
  Classical.byContradiction fun hnd =>
    not_mem_of_marks_zero (h.no_mark hnd) hx (hq ▸ List.mem_cons_self)

theorem phase_step {c : Cfg} {s s' : State} {a : Act} (h : PhaseInv s) (hs : Step c s a s') :
    PhaseInv s' := by
  cases hs with
  | start | finish =>
    exact ⟨h.over_of_stop, h.done_of_over, h.not_raised, h.done_of_closed, h.no_mark, h.one_mark⟩
  | pull hf | srcEnd hf | srcRaise hf | fcheck hf | stopSeen hf | submit hf | preFail hf =>
    exact h.feeder (by simp [hf]) (by simp) rfl
  | put hf => exact h.feeder (by simp [hf]) (by simp) (by simp [marks])
  | putEnd hf | putExc hf => exact h.feeder_done (by simp [hf]) rfl
  | getItem hc hq => exact h.iterate (hc ▸ rfl) rfl (hq ▸ rfl)
  | yld hc | next hc => exact h.iterate (hc ▸ rfl) rfl rfl
  | raiseItem hc | close hc => exact h.stop (hc ▸ rfl) (Nat.le_refl _)
  | getExc hc hq => exact h.stop (hc ▸ rfl) (hq ▸ marks_tail_le _ _)
  | getEnd _ hq =>
    exact h.wind_up rfl (fun _ => h.done_of_mark hq rfl) (by nofun) (hq ▸ marks_tail_le _ _)
  | setStop => exact h.wind_up rfl (by nofun) (by nofun) (Nat.le_refl _)
  | drainCancel hc hq | drainSkip hc hq =>
    have ho : s.cpc.over = true := by rw [hc]; rfl
    exact h.wind_up ho (h.done_of_over ho) h.done_of_closed (hq ▸ marks_tail_le _ _)
  | drainEnd hc hq | drainExc hc hq =>
    exact h.wind_up rfl (h.done_of_over (hc ▸ rfl)) (by nofun) (hq ▸ marks_tail_le _ _)
  | drainEmpty hc => exact h.wind_up rfl (h.done_of_over (hc ▸ rfl)) (by nofun) (Nat.le_refl _)
  | join _ hf => exact h.wind_up rfl (fun _ => hf) (fun _ => hf) (Nat.le_refl _)

/-- The elements in the queue and in the feeder's hand are in the order of their pulling.  `fut_step` needs it
    at `drainCancel`: the element taken out of `pending` is the head of the queue, so none of those behind it. -/
def SortInv (s : State) : Prop :=
  (qidx s.queue ++ fIdx s.fpc).Pairwise (· < ·) ∧ ∀ i ∈ qidx s.queue ++ fIdx s.fpc, i < s.pulled

theorem sort_init : SortInv init := by simp [SortInv, init, qidx, fIdx]

theorem SortInv.mono {s s' : State} (h : SortInv s)
    (hl : (qidx s'.queue ++ fIdx s'.fpc).Sublist (qidx s.queue ++ fIdx s.fpc))
    (hp : s.pulled ≤ s'.pulled) : SortInv s' :=
  ⟨h.1.sublist hl, fun i hi => Nat.lt_of_lt_of_le (h.2 i (hl.subset hi)) hp⟩

theorem sort_step {c : Cfg} {s s' : State} {a : Act} (h : SortInv s) (hs : Step c s a s') :
    SortInv s' := by
  cases hs with
  | pull hf =>
    simp only [SortInv, hf, fIdx, List.append_nil] at h ⊢
    refine ⟨List.pairwise_append.mpr ⟨h.1, List.pairwise_singleton _ _, fun a ha b hb => ?_⟩,
      fun i hi => (List.mem_append.mp hi).elim (fun hi => Nat.lt_succ_of_lt (h.2 i hi)) fun hi => ?_⟩
    · exact List.mem_singleton.mp hb ▸ h.2 a ha
    · exact List.mem_singleton.mp hi ▸ Nat.lt_succ_self _
  | srcEnd hf | srcRaise hf | fcheck hf | stopSeen hf | submit hf | preFail hf | put hf | putEnd hf
  | putExc hf =>
    exact h.mono (by simp [hf, fIdx, qidx]) (Nat.le_refl _)
  | getItem _ hq | getEnd _ hq | getExc _ hq | drainCancel _ hq | drainSkip _ hq | drainEnd _ hq
  | drainExc _ hq =>
    exact h.mono (by rw [hq]; exact (qidx_tail_sublist _ _).append_right _) (Nat.le_refl _)
  | _ => exact h

/-- Until the consumer enters its `finally` block, the elements pulled and not yet handed to it
    are, from the consumer's hand through the queue to the feeder's hand, `handed s, …, pulled - 1`. -/
def OrderInv (s : State) : Prop :=
  s.cpc.over = false →
    cIdx s.cpc ++ qidx s.queue ++ fIdx s.fpc = List.range' (handed s) (s.pulled - handed s)
    ∧ handed s ≤ s.pulled

theorem order_init : OrderInv init := by simp [OrderInv, init, handed, cIdx, qidx, fIdx]

theorem range'_pop {i a p : Nat} {l : List Nat} (h : i :: l = List.range' a (p - a)) :
    i = a ∧ a + 1 ≤ p ∧ l = List.range' (a + 1) (p - (a + 1)) := by
  obtain ⟨h1, h2, h3⟩ := List.range'_eq_cons_iff.mp h.symm
  subst h1
  exact ⟨rfl, by omega, h3⟩

theorem OrderInv.feeder {s : State} (h : OrderInv s) {f : FPc} {q : List QItem}
    (e : qidx q ++ fIdx f = qidx s.queue ++ fIdx s.fpc) {pe fi : List Nat} :
    OrderInv { s with fpc := f, queue := q, pending := pe, finished := fi } := by
  intro ho
  show cIdx s.cpc ++ qidx q ++ fIdx f = _ ∧ _
  rw [List.append_assoc, e, ← List.append_assoc]
  exact h ho

theorem OrderInv.count {s : State} (h : OrderInv s) (ho : s.cpc.over = false) :
    s.pulled = handed s + ((cIdx s.cpc).length + (qidx s.queue).length + fHold s.fpc) := by
  obtain ⟨h1, h2⟩ := h ho
  have := congrArg List.length h1
  simp only [List.length_append, List.length_range', length_fIdx] at this
  omega

theorem order_step {c : Cfg} {s s' : State} {a : Act} (hph : PhaseInv s) (h : OrderInv s)
    (hs : Step c s a s') : OrderInv s' := by
  cases hs with
  | start | finish => exact h
  | pull hf =>
    intro ho
    obtain ⟨h1, h2⟩ := h ho
    simp only [hf, fIdx, List.append_nil] at h1
    refine ⟨?_, Nat.le_succ_of_le h2⟩
    show cIdx s.cpc ++ qidx s.queue ++ [s.pulled] = List.range' (handed s) (s.pulled + 1 - handed s)
    rw [Nat.succ_sub h2, List.range'_1_concat, ← h1, Nat.add_sub_of_le h2]
  | srcEnd hf | srcRaise hf | fcheck hf | submit hf | preFail hf | put hf | putEnd hf | putExc hf =>
    exact h.feeder (by simp [hf, fIdx, qidx])
  | stopSeen _ ht => exact fun ho => absurd (hph.over_of_stop ht) (ne_true_of_eq_false ho)
  | getItem hc hq =>
    intro _
    have := h (hc ▸ rfl)
    rw [hc, hq] at this
    exact this
  | next hc | close hc =>
    intro _
    have := h (hc ▸ rfl)
    rw [hc] at this
    exact this
  | getExc hc hq =>
    intro _
    have := h (hc ▸ rfl)
    have hr := hph.not_raised (hc ▸ rfl)
    rw [handed, hc, hq, hr] at this
    exact this
  | yld hc =>
    intro _
    have := h (hc ▸ rfl)
    rw [hc] at this
    obtain ⟨_, h2, h3⟩ := range'_pop this.1
    have e : ∀ i, handed { s with cpc := .susp, out := s.out ++ [i] } = handed s + 1 := fun i => by
      simp only [handed, List.length_append, List.length_singleton]
      omega
    rw [e]
    exact ⟨h3, h2⟩
  | raiseItem hc =>
    intro _
    have := h (hc ▸ rfl)
    have hr := hph.not_raised (hc ▸ rfl)
    rw [handed, hc, hr] at this
    obtain ⟨_, h2, h3⟩ := range'_pop this.1
    exact ⟨h3, h2⟩
  | drainCancel hc | drainSkip hc => exact fun ho => by rw [hc] at ho; nomatch ho
  | getEnd | setStop | drainEnd | drainExc | drainEmpty | join => exact nofun

/-- further source pulls the feeder can still make once the stop flag is set -/
def morePulls : FPc → Nat
  | .idle => 1 | .sub _ => 1 | .hold _ => 1 | _ => 0
@[simp] theorem morePulls_idle : morePulls .idle = 1 := rfl
@[simp] theorem morePulls_check (i : Nat) : morePulls (.check i) = 0 := rfl
@[simp] theorem morePulls_sub (i : Nat) : morePulls (.sub i) = 1 := rfl
@[simp] theorem morePulls_hold (i : Nat) : morePulls (.hold i) = 1 := rfl
@[simp] theorem morePulls_putEnd : morePulls .putEnd = 0 := rfl
@[simp] theorem morePulls_putExc : morePulls .putExc = 0 := rfl
@[simp] theorem morePulls_done : morePulls .done = 0 := rfl
theorem fHold_morePulls_le (f : FPc) : fHold f + morePulls f ≤ 2 := by cases f <;> simp

/-- Once the consumer is in its `finally` block nothing is handed over any more, and the feeder
    pulls at most once more before it sees the stop flag (C08).  `cap + 3`: when the consumer enters the
    block its hand is empty and the queue holds at most `cap + 1`; the element in the feeder's hand and
    the pull still to come are at most 2 (`fHold_morePulls_le`). -/
def CountInv (c : Cfg) (s : State) : Prop :=
  s.queue.length ≤ c.cap + 1 ∧
  (s.cpc.over = true → s.pulled + morePulls s.fpc ≤ handed s + c.cap + 3)

theorem count_init (c : Cfg) : CountInv c init := ⟨Nat.zero_le _, nofun⟩

theorem CountInv.feeder {c : Cfg} {s : State} (h : CountInv c s) {p : Nat} {f : FPc} {q : List QItem}
    (hq : q.length ≤ c.cap + 1)
    (hm : s.cpc.over = true → p + morePulls f ≤ s.pulled + morePulls s.fpc) {pe fi : List Nat} :
    CountInv c { s with pulled := p, fpc := f, queue := q, pending := pe, finished := fi } :=
  ⟨hq, fun ho => Nat.le_trans (hm ho) (h.2 ho)⟩

theorem CountInv.enter {c : Cfg} {s : State} (h : CountInv c s) (hord : OrderInv s)
    (ho : s.cpc.over = false) (hc : cIdx s.cpc = []) :
    s.pulled + morePulls s.fpc ≤ handed s + c.cap + 3 := by
  have := hord.count ho
  rw [hc, List.length_nil] at this
  have := qidx_length_le s.queue
  have := h.1
  have := fHold_morePulls_le s.fpc
  omega

theorem count_step {c : Cfg} {s s' : State} {a : Act} (hph : PhaseInv s) (hord : OrderInv s)
    (h : CountInv c s) (hs : Step c s a s') : CountInv c s' := by
  have tail : ∀ {x q}, s.queue = x :: q → q.length ≤ c.cap + 1 := fun hq => by
    have := h.1
    rw [hq] at this
    exact Nat.le_of_succ_le this
  cases hs with
  | start | finish => exact h
  | pull hf | srcEnd hf | srcRaise hf | stopSeen hf | submit hf | preFail hf =>
    exact h.feeder h.1 (fun _ => by simp [hf])
  | fcheck hf ht => exact h.feeder h.1 (fun ho => absurd (hph.done_of_over ho ht) (by simp [hf]))
  | put hf hl | putEnd hf hl | putExc hf hl =>
    exact h.feeder (by rw [List.length_append]; exact hl) (fun _ => by simp [hf])
  | getItem _ hq | getExc _ hq => exact ⟨tail hq, nofun⟩
  | yld | raiseItem | next | close => exact ⟨h.1, nofun⟩
  | getEnd hc hq => exact ⟨tail hq, fun _ => h.enter hord (hc ▸ rfl) (hc ▸ rfl)⟩
  | setStop hc => exact ⟨h.1, fun _ => h.enter hord (hc ▸ rfl) (hc ▸ rfl)⟩
  | drainCancel hc hq | drainSkip hc hq | drainEnd hc hq | drainExc hc hq =>
    exact ⟨tail hq, fun _ => h.2 (hc ▸ rfl)⟩
  | drainEmpty hc | join hc => exact ⟨h.1, fun _ => h.2 (hc ▸ rfl)⟩

/-- nothing follows an end mark in the queue -/
def tailOK : List QItem → Prop
  | [] => True
  | .item _ :: r => tailOK r
  | _ :: r => r = []

theorem tailOK_append (q : List QItem) (x : QItem) (h : tailOK q) (hm : marks q = 0) : tailOK (q ++ [x]) := by
  induction q with
  | nil => cases x <;> simp [tailOK]
  | cons a q ih => cases a <;> simp_all [tailOK, marks]

theorem tailOK_tail (a : QItem) (q : List QItem) (h : tailOK (a :: q)) : tailOK q := by
  cases a <;> simp_all [tailOK]

/-- The queue holds at most the feeder's closing mark, at its end; the mark (put, or about to be
    put) says how the source ended or that the feeder saw the stop flag. -/
structure SuppInv (c : Cfg) (s : State) : Prop where
  tail : tailOK s.queue
  exc : (.excMark ∈ s.queue ∨ s.fpc = .putExc) → s.pulled = c.n ∧ c.srcEnd = .exc
  fin : (.endMark ∈ s.queue ∨ s.fpc = .putEnd) → (s.pulled = c.n ∧ c.srcEnd = .clean) ∨ s.toStop = true
  pulled_le : s.pulled ≤ c.n

theorem supp_init (c : Cfg) : SuppInv c init := ⟨trivial, nofun, nofun, Nat.zero_le _⟩

theorem SuppInv.of_marks_zero {c : Cfg} {s : State} (hq : tailOK s.queue) (hm : marks s.queue = 0)
    (hp : s.pulled ≤ c.n) (h1 : s.fpc = .putExc → s.pulled = c.n ∧ c.srcEnd = .exc)
    (h2 : s.fpc = .putEnd → (s.pulled = c.n ∧ c.srcEnd = .clean) ∨ s.toStop = true) : SuppInv c s :=
  ⟨hq, fun hx => hx.elim (fun hx => absurd hx (not_mem_of_marks_zero hm rfl)) h1,
   fun hx => hx.elim (fun hx => absurd hx (not_mem_of_marks_zero hm rfl)) h2, hp⟩

theorem SuppInv.consumer {c : Cfg} {s : State} (h : SuppInv c s) {q : List QItem}
    (hq : q = s.queue ∨ ∃ x, s.queue = x :: q) {t : Bool} (ht : s.toStop = true → t = true)
    {cp : CPc} {o : List Nat} {r : Option Raised} {cl : Bool} {pe ca : List Nat} :
    SuppInv c { s with queue := q, toStop := t, cpc := cp, out := o, raised := r, closeReq := cl,
                       pending := pe, cancelled := ca } := by
  have hsub : ∀ x, x ∈ q → x ∈ s.queue := by
    rcases hq with rfl | ⟨x, hx⟩
    · exact fun _ h => h
    · exact fun y hy => hx ▸ List.mem_cons_of_mem x hy
  have htl : tailOK q := by
    rcases hq with rfl | ⟨x, hx⟩
    · exact h.tail
    · exact tailOK_tail x q (hx ▸ h.tail)
  exact ⟨htl, fun hx => h.exc (hx.imp_left (hsub _)),
    fun hx => (h.fin (hx.imp_left (hsub _))).imp_right ht, h.pulled_le⟩

theorem supp_step {c : Cfg} {s s' : State} {a : Act} (hm : s.fpc ≠ .done → marks s.queue = 0)
    (h : SuppInv c s) (hs : Step c s a s') : SuppInv c s' := by
  cases hs with
  | pull hf hn => exact .of_marks_zero h.tail (hm (by simp [hf])) hn nofun nofun
  | fcheck hf | submit hf | preFail hf => exact .of_marks_zero h.tail (hm (by simp [hf])) h.pulled_le nofun nofun
  | srcEnd hf hn hc =>
    exact .of_marks_zero h.tail (hm (by simp [hf])) h.pulled_le nofun fun _ => .inl ⟨hn, hc⟩
  | srcRaise hf hn hc =>
    exact .of_marks_zero h.tail (hm (by simp [hf])) h.pulled_le (fun _ => ⟨hn, hc⟩) nofun
  | stopSeen hf ht => exact .of_marks_zero h.tail (hm (by simp [hf])) h.pulled_le nofun fun _ => .inr ht
  | put hf =>
    have hm := hm (by simp [hf])
    exact .of_marks_zero (tailOK_append _ _ h.tail hm) (by simp [hm, marks]) h.pulled_le nofun nofun
  | putEnd hf =>
    have hm := hm (by simp [hf])
    refine ⟨tailOK_append _ _ h.tail hm, fun hx => ?_, fun _ => h.fin (.inr hf), h.pulled_le⟩
    simp only [List.mem_append, List.mem_singleton, reduceCtorEq, or_false] at hx
    exact absurd hx (not_mem_of_marks_zero hm rfl)
  | putExc hf =>
    have hm := hm (by simp [hf])
    refine ⟨tailOK_append _ _ h.tail hm, fun _ => h.exc (.inr hf), fun hx => ?_, h.pulled_le⟩
    simp only [List.mem_append, List.mem_singleton, reduceCtorEq, or_false] at hx
    exact absurd hx (not_mem_of_marks_zero hm rfl)
  | getItem _ hq | getEnd _ hq | getExc _ hq | drainCancel _ hq | drainSkip _ hq | drainEnd _ hq
  | drainExc _ hq =>
    exact h.consumer (.inr ⟨_, hq⟩) id
  | setStop => exact h.consumer (.inl rfl) (fun _ => rfl)
  | _ => exact ⟨h.tail, h.exc, h.fin, h.pulled_le⟩

theorem mark_head {s : State} (hph : PhaseInv s) (ht : tailOK s.queue) {x : QItem}
    {rest : List QItem} (hq : s.queue = x :: rest) (hx : marks [x] = 1) : s.fpc = .done ∧ rest = [] := by
  refine ⟨hph.done_of_mark hq hx, ?_⟩
  rw [hq] at ht
  cases x with
  | item => nomatch hx
  | endMark | excMark => exact ht

/-- what the consumer has been handed (C01, C05) -/
structure ResInv (c : Cfg) (s : State) : Prop where
  out_eq : s.out = List.range s.out.length
  ready : ∀ i ∈ s.out, i ∈ s.finished ∧ (c.isErr i = false ∨ c.returnExc = true)
  item : ∀ i, s.raised = some (.item i) →
    i = s.out.length ∧ i ∈ s.finished ∧ c.isErr i = true ∧ c.returnExc = false ∧ i < c.n
  src : s.raised = some .src → s.out.length = c.n ∧ c.srcEnd = .exc
  all : s.cpc.over = true → s.raised = none → s.closeReq = false → s.out.length = c.n ∧ c.srcEnd = .clean
  why : s.cpc = .stopping → s.raised ≠ none ∨ s.closeReq = true

theorem res_init (c : Cfg) : ResInv c init := ⟨rfl, nofun, nofun, nofun, nofun, nofun⟩

theorem range'_eq_nil_iff' (a n : Nat) : List.range' a n = [] ↔ n = 0 := List.range'_eq_nil_iff

theorem ResInv.more_finished {c : Cfg} {s : State} (h : ResInv c s) {fi : List Nat}
    (hfi : ∀ i ∈ s.finished, i ∈ fi) {f : FPc} {ru : List Nat} :
    ResInv c { s with fpc := f, running := ru, finished := fi } :=
  { h with
    ready := fun i hi => ⟨hfi i (h.ready i hi).1, (h.ready i hi).2⟩
    item := fun i hi => ⟨(h.item i hi).1, hfi i (h.item i hi).2.1, (h.item i hi).2.2⟩ }

theorem res_step {c : Cfg} {s s' : State} {a : Act} (hph : PhaseInv s) (hord : OrderInv s)
    (hsup : SuppInv c s) (h : ResInv c s) (hs : Step c s a s') : ResInv c s' := by
  have active : s.cpc.active = true →
      s.raised = none ∧ handed s = s.out.length ∧ ∀ i, s.cpc = .wait i → i = s.out.length ∧ i < s.pulled := by
    intro ha
    have hr := hph.not_raised ha
    have hh : handed s = s.out.length := by rw [handed, hr]; rfl
    refine ⟨hr, hh, fun i hc => ?_⟩
    have := (hord (CPc.over_of_active ha)).1
    rw [hc, hh] at this
    obtain ⟨h1, h2, _⟩ := range'_pop this
    exact ⟨h1, h1 ▸ h2⟩
  -- the closing mark is the last entry and the feeder is done: nothing pulled is still in flight
  have last : ∀ {x rest}, s.cpc = .idle → s.queue = x :: rest → marks [x] = 1 → s.out.length = s.pulled := by
    intro x rest hc hq hx
    obtain ⟨hd, rfl⟩ := mark_head hph hsup.tail hq hx
    have := hord.count (hc ▸ rfl)
    rw [(active (hc ▸ rfl)).2.1, hc, hq, hd] at this
    cases x with
    | item => nomatch hx
    | endMark | excMark => exact this.symm
  cases hs with
  | preFail | finish => exact h.more_finished (fun _ hi => List.mem_cons_of_mem _ hi)
  | getItem | next => exact { h with all := nofun, why := nofun }
  | close => exact { h with all := nofun, why := fun _ => .inr rfl }
  | drainEnd hc | drainExc hc | drainEmpty hc | join hc =>
    exact { h with all := fun _ => h.all (hc ▸ rfl), why := nofun }
  | setStop hc =>
    refine { h with why := nofun, all := fun _ hr hcl => (h.why hc).elim (absurd hr) fun h' => ?_ }
    rw [hcl] at h'
    nomatch h'
  | getEnd hc hq =>
    refine { h with why := nofun, all := fun _ _ _ => ?_ }
    have hts : s.toStop = false := by
      cases ht : s.toStop with
      | false => rfl
      | true => exact nomatch hc ▸ hph.over_of_stop ht
    rcases hsup.fin (.inl (by rw [hq]; exact List.mem_cons_self)) with h' | h'
    · exact ⟨(last hc hq rfl).trans h'.1, h'.2⟩
    · exact nomatch hts.symm.trans h'
  | getExc hc hq =>
    have := hsup.exc (.inl (by rw [hq]; exact List.mem_cons_self))
    exact { h with
      item := nofun, src := fun _ => ⟨(last hc hq rfl).trans this.1, this.2⟩, all := nofun
      why := fun _ => .inl nofun }
  | yld hc hfin hok =>
    obtain ⟨hr, _, hi⟩ := active (hc ▸ rfl)
    refine { all := nofun, why := nofun, out_eq := ?_, ready := fun j hj => ?_, item := ?_, src := ?_ }
    · show s.out ++ [_] = List.range (s.out ++ [_]).length
      rw [List.length_append, List.length_singleton, List.range_succ, ← h.out_eq, (hi _ hc).1]
    · rcases List.mem_append.mp hj with hj | hj
      · exact h.ready j hj
      · rw [List.mem_singleton.mp hj]
        exact ⟨hfin, hok⟩
    · exact fun j hj => nomatch hr.symm.trans hj
    · exact fun hj => nomatch hr.symm.trans hj
  | raiseItem hc hfin he hr =>
    obtain ⟨_, _, hi⟩ := active (hc ▸ rfl)
    refine { h with src := nofun, all := nofun, why := fun _ => .inl nofun, item := fun j hj => ?_ }
    cases hj
    exact ⟨(hi _ hc).1, hfin, he, hr, Nat.lt_of_lt_of_le (hi _ hc).2 hsup.pulled_le⟩
  | _ => exact { h with }

/-- 1 while the feeder holds an element it has not yet submitted -/
def fFresh : FPc → Nat
  | .check _ => 1 | .sub _ => 1 | _ => 0
@[simp] theorem fFresh_idle : fFresh .idle = 0 := rfl
@[simp] theorem fFresh_check (i : Nat) : fFresh (.check i) = 1 := rfl
@[simp] theorem fFresh_sub (i : Nat) : fFresh (.sub i) = 1 := rfl
@[simp] theorem fFresh_hold (i : Nat) : fFresh (.hold i) = 0 := rfl
@[simp] theorem fFresh_putEnd : fFresh .putEnd = 0 := rfl
@[simp] theorem fFresh_putExc : fFresh .putExc = 0 := rfl
@[simp] theorem fFresh_done : fFresh .done = 0 := rfl

/-- Every future obtained from the pool is in exactly one of `finished`, `running`, `pending`,
    once; it was obtained for an element already pulled (and not the one the feeder is about to
    submit); `calls` records exactly the calls that entered the worker function (C01). -/
structure PoolInv (c : Cfg) (s : State) : Prop where
  nodup : (s.finished ++ (s.running ++ s.pending)).Nodup
  lt : ∀ j ∈ s.finished ++ (s.running ++ s.pending), j + fFresh s.fpc < s.pulled
  held : ∀ i ∈ fIdx s.fpc, i + 1 = s.pulled
  passed : ∀ j ∈ s.running ++ s.pending, c.preFail j = false
  calls : s.calls.Perm (s.finished.filter (fun j => !c.preFail j) ++ s.running)

theorem pool_init (c : Cfg) : PoolInv c init := ⟨.nil, nofun, nofun, nofun, .nil⟩

theorem PoolInv.feeder {c : Cfg} {s : State} (h : PoolInv c s) {p : Nat} {f : FPc}
    (h3 : s.pulled + fFresh f ≤ p + fFresh s.fpc) (h4 : ∀ i ∈ fIdx f, i + 1 = p) {q : List QItem} :
    PoolInv c { s with pulled := p, fpc := f, queue := q } :=
  { h with
    lt := fun j hj => by
      have := h.lt j hj
      show j + fFresh f < p
      omega
    held := h4 }

theorem PoolInv.obtain {c : Cfg} {s : State} (h : PoolInv c s) {i : Nat} (hf : s.fpc = .sub i)
    {fi pe : List Nat} (hperm : (fi ++ (s.running ++ pe)).Perm (i :: (s.finished ++ (s.running ++ s.pending))))
    (hpass : ∀ j ∈ s.running ++ pe, c.preFail j = false)
    (hcalls : fi.filter (fun j => !c.preFail j) = s.finished.filter (fun j => !c.preFail j)) :
    PoolInv c { s with fpc := .hold i, pending := pe, finished := fi } := by
  have hi : i + 1 = s.pulled := h.held i (by simp [hf, fIdx])
  have hlt : ∀ j ∈ s.finished ++ (s.running ++ s.pending), j + 1 < s.pulled := fun j hj => by
    have := h.lt j hj
    rwa [hf] at this
  refine ⟨hperm.nodup_iff.mpr (List.nodup_cons.mpr ⟨fun hm => ?_, h.nodup⟩), fun j hj => ?_,
    fun k hk => List.mem_singleton.mp hk ▸ hi, hpass, hcalls ▸ h.calls⟩
  · have := hlt i hm
    omega
  · show j + 0 < s.pulled
    rcases List.mem_cons.mp (hperm.subset hj) with rfl | hj
    · omega
    · have := hlt j hj
      omega

theorem PoolInv.move {c : Cfg} {s : State} (h : PoolInv c s) {fi ru pe l : List Nat}
    (hsub : (fi ++ (ru ++ pe)).Sublist l) (hperm : l.Perm (s.finished ++ (s.running ++ s.pending)))
    (hpass : ru ++ pe ⊆ s.running ++ s.pending) {ca : List Nat}
    (hcalls : ca.Perm (fi.filter (fun j => !c.preFail j) ++ ru)) {q : List QItem} {cd : List Nat} :
    PoolInv c { s with queue := q, pending := pe, running := ru, finished := fi, cancelled := cd, calls := ca } :=
  ⟨(hperm.nodup_iff.mpr h.nodup).sublist hsub, fun j hj => h.lt j (hperm.subset (hsub.subset hj)), h.held,
   fun j hj => h.passed j (hpass hj), hcalls⟩

theorem pool_step {c : Cfg} {s s' : State} {a : Act} (h : PoolInv c s)
    (hs : Step c s a s') : PoolInv c s' := by
  cases hs with
  | pull hf | srcEnd hf | srcRaise hf | stopSeen hf | put hf | putEnd hf | putExc hf =>
    exact h.feeder (by simp [hf]) (by simp [fIdx])
  | fcheck hf => exact h.feeder (by simp [hf]) (by simpa [hf, fIdx] using h.held)
  | submit hf hp =>
    refine h.obtain hf ?_ (fun j hj => ?_) rfl
    · simp only [← List.append_assoc]
      exact List.perm_append_singleton _ _
    · rw [← List.append_assoc] at hj
      exact (List.mem_append.mp hj).elim (h.passed j) fun hj => List.mem_singleton.mp hj ▸ hp
  | preFail hf hp => exact h.obtain hf (.refl _) h.passed (List.filter_cons_of_neg (by simp [hp]))
  | start hp hl =>
    rename_i j
    have hrp : ((s.running ++ [j]) ++ s.pending.erase j).Perm (s.running ++ s.pending) := by
      rw [List.append_assoc]
      exact (List.perm_cons_erase hp).symm.append_left _
    refine h.move (.refl _) (hrp.append_left _) hrp.subset ?_
    rw [← List.append_assoc]
    exact (h.calls.cons j).trans (List.perm_append_singleton _ _).symm
  | finish hj =>
    rename_i j
    have hpj : (!c.preFail j) = true := congrArg not (h.passed j (List.mem_append_left _ hj))
    have hr := List.perm_cons_erase hj
    refine h.move (.refl _) (List.perm_middle.symm.trans ((hr.symm.append_right _).append_left _))
      (List.erase_sublist.append_right _).subset ?_
    rw [List.filter_cons_of_pos (p := fun j => !c.preFail j) hpj]
    exact h.calls.trans ((hr.append_left _).trans List.perm_middle)
  | drainCancel =>
    exact h.move ((List.erase_sublist.append_left _).append_left _) (.refl _)
      (List.erase_sublist.append_left _).subset h.calls
  | _ => exact { h with }

theorem conc_step (c : Cfg) (s : State) (a : Act) (s' : State) (h : s.running.length ≤ c.conc)
    (hs : Step c s a s') : s'.running.length ≤ c.conc := by
  cases hs with
  | start _ hl => exact (List.length_append (bs := [_])).symm ▸ hl
  | finish => exact Nat.le_trans (List.length_erase_le) h
  | _ => exact h

end Fifo
