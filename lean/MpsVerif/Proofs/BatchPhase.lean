import MpsVerif.Proofs.BatchInv
/-! Lock / phase invariants of the batching-worker model (used by progress). -/
namespace Batch

/-- collector phases in which the read lock of `q_in` is held -/
def holds : CPh → Bool
  | .locked | .have _ | .after | .decide => true
  | _ => false

/-- collector phases that are followed by a put into the buffer -/
def putting : CPh → Bool
  | .locked | .have _ => true
  | _ => false

def Room (c : Cfg) (w : W) : Prop := putting w.cph = true → w.buf.length < c.cap

/-- the worker has seen no trace of the end marker -/
structure Clean (w : W) : Prop where
  buf : Item.stop ∉ w.buf
  held : w.cph ≠ .have .stop
  cph : w.cph ≠ .done
  gph : w.gph ≠ .fin

/-- the collector has never run -/
def Unused (w : W) : Prop := w.buf = [] ∧ w.cph = .top

structure PhInv (c : Cfg) (s : State) : Prop where
  lock : ∀ i, s.lock = some i ↔ i < c.k ∧ holds (s.ws i).cph = true
  room : ∀ i, Room c (s.ws i)
  clean : s.stopped = false → Item.stop ∉ s.qin ∧ ∀ i, Clean (s.ws i)
  single : c.b ≤ 1 → ∀ i, Unused (s.ws i)

theorem ph_init (c : Cfg) : PhInv c init := by
  refine ⟨fun i => ?_, fun i => ?_, fun _ => ⟨?_, fun i => ⟨?_, ?_, ?_, ?_⟩⟩, fun _ i => ?_⟩ <;>
    simp [init, holds, Room, putting, Unused]

set_option hygiene false in
/-- one worker `i` moved: re-establish its own part and the (unchanged) parts of the others -/
macro "ph_case" i:ident : tactic => `(tactic| (
    refine ⟨fun j => ?_, ?_⟩
    · have hwi := hw $i; have hwj := hw j
      by_cases hj : j = $i
      · subst hj; simp_all [WPh, holds, Cfg.cap] <;> first | omega | grind
      · have hj' : ¬ $i = j := fun h => hj h.symm
        simp only [WPh, setW_other _ _ _ _ hj] at hwi hwj ⊢; simp_all [holds]
    · have hwi := hw $i; simp_all [WPh, holds]))

variable {c : Cfg} {s s' : State} {a : Act}

theorem lock_setW {i : Nat} {w : W} {l : Option Nat} (hi : i < c.k)
    (h : ∀ j, s.lock = some j ↔ j < c.k ∧ holds (s.ws j).cph = true)
    (hl : (l = s.lock ∧ holds w.cph = holds (s.ws i).cph) ∨
          (s.lock = none ∧ l = some i ∧ holds w.cph = true) ∨
          (holds (s.ws i).cph = true ∧ l = none ∧ holds w.cph = false)) :
    ∀ j, l = some j ↔ j < c.k ∧ holds ((setW s i w).ws j).cph = true := by
  intro j
  by_cases hj : j = i
  · subst hj
    rw [setW_same]
    rcases hl with ⟨rfl, hw⟩ | ⟨_, rfl, hw⟩ | ⟨_, rfl, hw⟩
    · rw [hw]
      exact h j
    · simp [hi, hw]
    · simp [hw]
  · rw [setW_other _ _ hj]
    rcases hl with ⟨rfl, _⟩ | ⟨hn, rfl, _⟩ | ⟨hh, rfl, _⟩
    · exact h j
    · rw [← h j, hn]
      simp [Ne.symm hj]
    · rw [← h j, (h i).mpr ⟨hi, hh⟩]
      simp [Ne.symm hj]

theorem lock_step (h : ∀ j, s.lock = some j ↔ j < c.k ∧ holds (s.ws j).cph = true) (hs : Step c s a s') :
    ∀ j, s'.lock = some j ↔ j < c.k ∧ holds (s'.ws j).cph = true := by
  cases hs with
  | arrive | stop | tick | sGetShort => exact h
  | cLock hi _ _ hl => exact lock_setW hi h (.inr (.inl ⟨hl, rfl, rfl⟩))
  | cPutStop hi hp | cDecFlag hi hp | cDecFull hi hp =>
    exact lock_setW hi h (.inr (.inr ⟨hp ▸ rfl, rfl, rfl⟩))
  | cGet hi hp | cPutGood hi hp | cPutShort hi hp | cMore hi hp | cNoMore hi hp | cDecCont hi hp =>
    exact lock_setW hi h (.inl ⟨rfl, hp ▸ rfl⟩)
  | _ => exact lock_setW ‹_› h (.inl ⟨rfl, rfl⟩)

theorem Room.shrink {w w' : W} (h : Room c w) (hc : w'.cph = w.cph) (hb : w'.buf.length ≤ w.buf.length) :
    Room c w' := by
  intro hp
  rw [hc] at hp
  exact Nat.lt_of_le_of_lt hb (h hp)

theorem room_step (h : ∀ j, Room c (s.ws j)) (hs : Step c s a s') :
    ∀ j, Room c (s'.ws j) := by
  cases hs with
  | arrive | stop | tick | sGetShort => exact h
  | cLock _ _ _ _ hr => exact forall_setW h fun _ => hr
  | cGet _ hp => exact forall_setW h fun _ => h _ (hp ▸ rfl)
  | cMore _ _ hl | cDecCont _ _ _ hl => exact forall_setW h fun _ => Nat.lt_of_lt_of_le hl (Nat.le_add_right _ _)
  | cPutStop | cPutGood | cPutShort | cNoMore | cDecFlag | cDecFull => exact forall_setW h nofun
  | gFirstStop _ _ _ _ hb | gFirstReq _ _ _ _ hb | gNextStop _ _ _ hb | gNextMore _ _ _ hb | gNextFull _ _ _ hb =>
    exact forall_setW h ((h _).shrink rfl (by simp [hb]))
  | _ => exact forall_setW h (h _)

theorem stopped_mono (hs : Step c s a s') : s'.stopped = false → s.stopped = false := by
  cases hs with
  | stop => nofun
  | _ => exact id

theorem clean_step (h : Item.stop ∉ s.qin ∧ ∀ j, Clean (s.ws j))
    (hs : Step c s a s') (hst : s'.stopped = false) : Item.stop ∉ s'.qin ∧ ∀ j, Clean (s'.ws j) := by
  obtain ⟨hn, hw⟩ := h
  cases hs with
  | stop => cases hst
  | tick => exact ⟨hn, hw⟩
  | arrive => exact ⟨by simp [hn], hw⟩
  | cPutStop _ hp => exact absurd hp (hw _).held
  | gFirstStop _ _ _ _ hb | gNextStop _ _ _ hb => exact absurd (hb ▸ List.mem_cons_self) (hw _).buf
  | sGetStop _ _ _ _ hq => exact absurd (hq ▸ List.mem_cons_self) hn
  | cGet _ _ hq | cMore _ _ _ hq =>
    rw [hq] at hn
    refine ⟨fun hm => hn (List.mem_cons_of_mem _ hm), forall_setW hw ⟨(hw _).buf, fun he => ?_, nofun, (hw _).gph⟩⟩
    injection he with he
    exact hn (he ▸ List.mem_cons_self)
  | cLock | cPutShort | cNoMore | cDecFlag | cDecFull | cDecCont =>
    exact ⟨hn, forall_setW hw ⟨(hw _).buf, nofun, nofun, (hw _).gph⟩⟩
  | cPutGood => exact ⟨hn, forall_setW hw ⟨by simp [(hw _).buf], nofun, nofun, (hw _).gph⟩⟩
  | gFirstReq _ _ _ _ hb | gNextMore _ _ _ hb | gNextFull _ _ _ hb =>
    exact ⟨hn, forall_setW hw ⟨fun hm => (hw _).buf (mem_of_tail hb hm), (hw _).held, (hw _).cph, nofun⟩⟩
  | gTimeout | gRelease => exact ⟨hn, forall_setW hw ⟨(hw _).buf, (hw _).held, (hw _).cph, nofun⟩⟩
  | sGetGood _ _ _ _ hq =>
    exact ⟨fun hm => hn (mem_of_tail hq hm), forall_setW hw ⟨(hw _).buf, (hw _).held, (hw _).cph, (hw _).gph⟩⟩
  | sGetShort _ _ _ _ hq => exact ⟨fun hm => hn (mem_of_tail hq hm), hw⟩
  | callEnter | callRet | emit => exact ⟨hn, forall_setW hw ⟨(hw _).buf, (hw _).held, (hw _).cph, (hw _).gph⟩⟩

theorem single_step (hb1 : c.b ≤ 1) (h : ∀ j, Unused (s.ws j)) (hs : Step c s a s') :
    ∀ j, Unused (s'.ws j) := by
  cases hs with
  | arrive | stop | tick | sGetShort => exact h
  | cLock _ hb | gFirstStop _ hb | gFirstReq _ hb => exact absurd hb (Nat.not_lt.mpr hb1)
  | cGet _ hp | cPutStop _ hp | cPutGood _ hp | cPutShort _ hp | cMore _ hp | cNoMore _ hp | cDecFlag _ hp
  | cDecFull _ hp | cDecCont _ hp =>
    rw [(h _).2] at hp
    cases hp
  | gNextStop _ _ _ hb | gNextMore _ _ _ hb | gNextFull _ _ _ hb =>
    rw [(h _).1] at hb
    cases hb
  | _ => exact forall_setW h (h _)

theorem ph_step (c : Cfg) (s : State) (a : Act) (s' : State) (h : PhInv c s) (hs : Step c s a s') :
    PhInv c s' :=
  ⟨lock_step h.lock hs, room_step h.room hs,
   fun hst => clean_step (h.clean (stopped_mono hs hst)) hs hst,
   fun hb => single_step hb (h.single hb) hs⟩

theorem ph_reachable {c : Cfg} {s : State} (hr : Reachable c s) : PhInv c s :=
  reachable_inv (ph_init c) (ph_step c) hr

end Batch
