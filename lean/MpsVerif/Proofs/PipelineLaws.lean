import MpsVerif.Proofs.PipelineSem
/-!
# Operator laws: `sem` against the list library

Each lemma relates the sequential meaning of one operator to a standard list function
(`List.map`, `filter`, `take`, `drop`, `flatten`, `Perm`), which is what the documentation of the
operator promises.
-/
namespace Pipeline

theorem semMap_append (f : Val → Res) (g : Val → Val) (pre l : List Val) (e : Option Err)
    (h : ∀ v ∈ pre, f v = .ok (g v)) : semMap f (pre ++ l) e = (semMap f l e).prepend (pre.map g) := by
  induction pre with
  | nil => rfl
  | cons v r ih =>
    rw [List.forall_mem_cons] at h
    rw [List.cons_append, semMap, h.1]
    exact congrArg (Strm.cons (g v)) (ih h.2)

theorem semFilter_total (p : Val → Res) (b : Val → Val) (l : List Val) (e : Option Err)
    (h : ∀ v ∈ l, p v = .ok (b v)) : semFilter p l e = ⟨l.filter (fun v => (b v).truthy), e⟩ := by
  induction l with
  | nil => rfl
  | cons v r ih =>
    simp only [List.forall_mem_cons] at h
    simp only [semFilter, h.1, ih h.2, List.filter_cons]
    cases (b v).truthy <;> simp [Strm.cons]

theorem semParmap_plain (f : Val → Res) (l : List Val) (e : Option Err) :
    semParmap f false false l e = semMap f l e := by
  induction l with
  | nil => rfl
  | cons v r ih =>
    simp only [semParmap, semMap]
    cases f v <;> simp [ih, wrapX]

def ExcVerdict.isRaise : ExcVerdict → Bool
  | .raise _ => true
  | _ => false

def ExcVerdict.isKeep : ExcVerdict → Bool
  | .keep => true
  | _ => false

theorem excVerdict_raise_iff (d k : ExcSel) (v : Val) (e : Err) :
    excVerdict d k v = .raise e ↔
      ∃ t a, v = .exc t a ∧ k.has t = false ∧ d.has t = false ∧ e = ⟨t, a⟩ := by
  constructor
  · intro h
    cases v with
    | exc t a =>
      rw [excVerdict] at h
      split at h
      · cases h
      · split at h
        · cases h
        · next hk hd =>
          cases h
          exact ⟨t, a, rfl, Bool.eq_false_iff.2 hk, Bool.eq_false_iff.2 hd, rfl⟩
    | _ => cases h
  · rintro ⟨t, a, rfl, hk, hd, rfl⟩
    rw [excVerdict, hk, hd]
    rfl

theorem semFilterExc_append (d k : ExcSel) (pre l : List Val) (e : Option Err)
    (h : ∀ v ∈ pre, (excVerdict d k v).isRaise = false) :
    semFilterExc d k (pre ++ l) e =
      (semFilterExc d k l e).prepend (pre.filter (fun v => (excVerdict d k v).isKeep)) := by
  induction pre with
  | nil => rfl
  | cons v r ih =>
    rw [List.forall_mem_cons] at h
    rw [List.cons_append, semFilterExc, List.filter_cons, ih h.2]
    cases hv : excVerdict d k v with
    | keep => rfl
    | drop => rfl
    | raise x =>
      rw [hv] at h
      cases h.1

@[simp] theorem elems_ofList (l : List Val) : (Val.ofList l).elems = some l := by
  induction l with
  | nil => rfl
  | cons v r ih => simp [Val.ofList, Val.elems, ih]

theorem semUnbatch_ofLists (ls : List (List Val)) (e : Option Err) :
    semUnbatch (ls.map Val.ofList) e = ⟨ls.flatten, e⟩ := by
  induction ls with
  | nil => rfl
  | cons l r ih => simp [semUnbatch, ih, Strm.prepend]

theorem dropLast_cons_forall {α : Type} {p : α → Prop} {a : α} {l : List α} (ha : p a)
    (hl : ∀ x ∈ l.dropLast, p x) : ∀ x ∈ (a :: l).dropLast, p x := by
  cases l with
  | nil => simp
  | cons b t =>
    simp only [List.dropLast_cons_cons, List.forall_mem_cons]
    exact ⟨ha, hl⟩

/-- the batches: a partition of the input into consecutive non-empty lists of size ≤ n, all but
    the last of size exactly n (when the source fails, only the complete batches, which are a
    prefix partition) -/
theorem semBatch_shape (n : Nat) (hn : 0 < n) (l : List Val) (e : Option Err) :
    ∀ cur : List Val, cur.length < n →
    ∃ ls : List (List Val),
      (semBatch n cur l e).vals = ls.map Val.ofList ∧ (semBatch n cur l e).err = e ∧
      (e = Option.none → ls.flatten = cur ++ l) ∧
      (∀ b ∈ ls, 0 < b.length ∧ b.length ≤ n) ∧ (∀ b ∈ ls.dropLast, b.length = n) := by
  induction l with
  | nil =>
    intro cur hc
    cases e with
    | some x => exact ⟨[], rfl, rfl, nofun, nofun, nofun⟩
    | none =>
      cases cur with
      | nil => exact ⟨[], rfl, rfl, fun _ => rfl, nofun, nofun⟩
      | cons a t =>
        exact ⟨[a :: t], rfl, rfl, fun _ => rfl,
          List.forall_mem_singleton.2 ⟨Nat.succ_pos _, Nat.le_of_lt hc⟩, nofun⟩
  | cons v r ih =>
    intro cur hc
    rw [semBatch]
    by_cases hfull : (cur ++ [v]).length = n
    · rw [if_pos hfull]
      obtain ⟨ls, h1, h2, h3, h4, h5⟩ := ih [] hn
      refine ⟨(cur ++ [v]) :: ls, congrArg (_ :: ·) h1, h2, fun he => ?_, ?_, ?_⟩
      · rw [List.flatten_cons, h3 he, List.append_assoc]
        rfl
      · exact List.forall_mem_cons.2 ⟨⟨hfull ▸ hn, Nat.le_of_eq hfull⟩, h4⟩
      · exact dropLast_cons_forall hfull h5
    · rw [if_neg hfull]
      obtain ⟨ls, h1, h2, h3, h4, h5⟩ := ih (cur ++ [v]) (by
        rw [List.length_append] at hfull ⊢
        exact Nat.lt_of_le_of_ne (Nat.succ_le_of_lt hc) hfull)
      exact ⟨ls, h1, h2, fun he => (h3 he).trans (List.append_assoc ..), h4, h5⟩

theorem applyShuffle_perm (cs : List Nat) (l : List Val) : (applyShuffle cs l).Perm l := by
  induction l generalizing cs with
  | nil => simp [applyShuffle]
  | cons x xs ih =>
    simp only [applyShuffle]
    refine (List.perm_insertIdx x _ ?_).trans (List.Perm.cons x (ih cs.tail))
    exact Nat.le_of_lt_succ (Nat.mod_lt _ (Nat.succ_pos _))

theorem getD_cons_set_perm (buf : List Val) (i : Nat) (v d : Val) (hi : i < buf.length) :
    (buf.getD i d :: buf.set i v).Perm (v :: buf) := by
  induction buf generalizing i with
  | nil => simp at hi
  | cons a t ih =>
    cases i with
    | zero => simpa using List.Perm.swap v a t
    | succ i =>
      have := ih i (Nat.lt_of_succ_lt_succ hi)
      simp only [List.getD_cons_succ, List.set_cons_succ]
      exact (List.Perm.swap a (t.getD i d) (t.set i v)).trans
        ((List.Perm.cons a this).trans (List.Perm.swap v a t))

theorem semShuffle_perm (n : Nat) (hn : 0 < n) (perm : List Nat) (l : List Val) :
    ∀ (buf : List Val) (rnd : List Nat), buf.length ≤ n →
      (semShuffle n perm buf rnd l Option.none).vals.Perm (buf ++ l) ∧
      (semShuffle n perm buf rnd l Option.none).err = Option.none := by
  induction l with
  | nil =>
    intro buf rnd _
    exact ⟨(List.append_nil buf).symm ▸ applyShuffle_perm perm buf, rfl⟩
  | cons v r ih =>
    intro buf rnd hb
    rw [semShuffle]
    by_cases hlt : buf.length < n
    · rw [if_pos hlt]
      have := ih (buf ++ [v]) rnd (by rw [List.length_append]; exact hlt)
      rw [List.append_assoc] at this
      exact this
    · rw [if_neg hlt]
      have hi : rnd.headD 0 % n < buf.length :=
        Nat.lt_of_lt_of_le (Nat.mod_lt _ hn) (Nat.le_of_not_lt hlt)
      obtain ⟨p, he⟩ := ih (buf.set (rnd.headD 0 % n) v) rnd.tail (by rw [List.length_set]; exact hb)
      exact ⟨((p.cons _).trans ((getD_cons_set_perm buf _ v .none hi).append_right r)).trans
        List.perm_middle.symm, he⟩

def adjDistinct : List (Val × List Val) → Prop
  | [] => True
  | [_] => True
  | a :: b :: r => a.1 ≠ b.1 ∧ adjDistinct (b :: r)

/-- with an open group `(ck, cl)`: the first group of the output has key `ck` and begins with `cl` -/
theorem semGroup_open (key : Val → Res) (k : Val → Val) (l : List Val)
    (hk : ∀ v ∈ l, key v = .ok (k v)) (ck : Val) (cl : List Val) (hne : cl ≠ [])
    (hcl : ∀ x ∈ cl, k x = ck) :
    ∃ m rest,
      semGroup key (some (ck, cl)) l Option.none =
        ⟨((ck, m) :: rest).map (fun g => Val.pair g.1 (Val.ofList g.2)), Option.none⟩ ∧
      (((ck, m) :: rest).map (·.2)).flatten = cl ++ l ∧
      (∀ g ∈ (ck, m) :: rest, g.2 ≠ [] ∧ ∀ x ∈ g.2, k x = g.1) ∧
      adjDistinct ((ck, m) :: rest) := by
  induction l generalizing ck cl with
  | nil =>
    exact ⟨cl, [], rfl, rfl, List.forall_mem_singleton.2 ⟨hne, hcl⟩, trivial⟩
  | cons v r ih =>
    rw [List.forall_mem_cons] at hk
    rw [semGroup, hk.1]
    dsimp only
    by_cases heq : k v = ck
    · rw [if_pos heq]
      obtain ⟨m, rest, h1, h2, h3, h4⟩ := ih hk.2 ck (cl ++ [v]) (by simp)
        (List.forall_mem_append.2 ⟨hcl, List.forall_mem_singleton.2 heq⟩)
      exact ⟨m, rest, h1, h2.trans (List.append_assoc ..), h3, h4⟩
    · rw [if_neg heq]
      obtain ⟨m, rest, h1, h2, h3, h4⟩ :=
        ih hk.2 (k v) [v] (List.cons_ne_nil _ _) (List.forall_mem_singleton.2 rfl)
      refine ⟨cl, (k v, m) :: rest, congrArg (Strm.cons _) h1, ?_, ?_, fun h => heq h.symm, h4⟩
      · rw [List.map_cons, List.flatten_cons, h2]
        rfl
      · exact List.forall_mem_cons.2 ⟨⟨hne, hcl⟩, h3⟩

/-- groups: consecutive non-empty runs with constant key whose concatenation is the input, and
    neighbouring groups have different keys (so the runs are maximal) -/
theorem semGroup_shape (key : Val → Res) (k : Val → Val) (l : List Val)
    (hk : ∀ v ∈ l, key v = .ok (k v)) :
    ∃ gs : List (Val × List Val),
      semGroup key Option.none l Option.none =
        ⟨gs.map (fun g => Val.pair g.1 (Val.ofList g.2)), Option.none⟩ ∧
      (gs.map (·.2)).flatten = l ∧ (∀ g ∈ gs, g.2 ≠ [] ∧ ∀ x ∈ g.2, k x = g.1) ∧ adjDistinct gs := by
  cases l with
  | nil => exact ⟨[], rfl, rfl, nofun, trivial⟩
  | cons v r =>
    rw [List.forall_mem_cons] at hk
    obtain ⟨m, rest, h⟩ :=
      semGroup_open key k r hk.2 (k v) [v] (List.cons_ne_nil _ _) (List.forall_mem_singleton.2 rfl)
    rw [semGroup, hk.1]
    exact ⟨_, h⟩

theorem semAcc_total (g : Val → Val → Res) (h : Val → Val → Val) (hg : ∀ z v, g z v = .ok (h z v))
    (l : List Val) (e : Option Err) (z : Val) :
    semAcc g (some z) l e = ⟨(l.scanl h z).tail, e⟩ := by
  induction l generalizing z with
  | nil => rfl
  | cons v r ih =>
    simp only [semAcc, hg, ih, List.scanl_cons, List.tail_cons, Strm.cons]
    cases r with
    | nil => rfl
    | cons w r' => simp [List.scanl_cons]

end Pipeline
