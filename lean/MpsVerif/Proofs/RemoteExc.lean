import MpsVerif.Model.RemoteExc
/-! Result lists nest through their exception entries; `mems_induction` is the induction that
    follows the nesting, so that each fact about result lists is one plain induction. -/
namespace RemoteExc

deriving instance DecidableEq for Exc, Mems

variable (F : Fmt) (p : Text)

theorem mems_induction {P : Mems → Prop} (nil : P .nil) (val : ∀ v r, P r → P (.val v r))
    (exc : ∀ c a l k m r, P m → P r → P (.exc (.mk c a l k m) r))
    (rem : ∀ c a l k m t r, P m → P r → P (.rem (.mk c a l k m) t r)) (m : Mems) : P m :=
  Mems.rec (motive_1 := fun e => P e.mem) (motive_2 := P)
    (fun _ _ _ _ _ ih => ih) nil val
    (fun e r ihe ihr => by cases e; exact exc _ _ _ _ _ _ ihe ihr)
    (fun e t r ihe ihr => by cases e; exact rem _ _ _ _ _ _ _ ihe ihr) m

theorem recv_shape (e : Exc) (h : e.recv = true) :
    ∃ c a t m, e = .mk c a none (.remote t) m ∧ m.recv = true := by
  cases e with
  | mk c a l k m =>
    cases l with
    | some _ => exact nomatch h
    | none =>
      cases k with
      | remote t => exact ⟨c, a, t, m, rfl, h⟩
      | none => exact nomatch h
      | other _ => exact nomatch h

theorem ok_mem (e : Exc) (h : e.ok = true) : e.mem.ok = true := by
  cases e with
  | mk c a l k m => exact ((Bool.and_eq_true _ _).mp h).2

theorem wrapText_ok (e : Exc) (h : e.ok = true) : ∃ t, wrapText F p e.live e.cause .dflt = some t := by
  cases e with
  | mk c a l k m =>
    cases l with
    | some own => exact ⟨_, rfl⟩
    | none =>
      cases k with
      | remote t => exact ⟨t, rfl⟩
      | none => exact nomatch h
      | other _ => exact nomatch h

theorem wrapText_live (e : Exc) (own : Text) (hl : e.live = some own) :
    wrapText F p e.live e.cause .dflt = some (p ++ fmtChain F own e.cause) := by
  rw [hl]
  rfl

theorem cause_remote_iff (e : Exc) (t : Text) :
    e.cause = .remote t ↔ e.isRemote = true ∧ e.remoteTb = some t := by
  unfold Exc.isRemote Exc.remoteTb
  cases e.cause with
  | remote t' => exact ⟨fun h => ⟨rfl, congrArg some (Cause.remote.inj h)⟩,
      fun h => congrArg Cause.remote (Option.some.inj h.2)⟩
  | none => exact ⟨nofun, fun h => nomatch h.1⟩
  | other _ => exact ⟨nofun, fun h => nomatch h.1⟩

theorem ok_of_live (e : Exc) (own : Text) (hl : e.live = some own) (hn : e.mem.ok = true) : e.ok = true := by
  cases e with
  | mk c a l k m =>
    cases (hl : l = some own)
    exact hn

mutual
/-- `e'` is a faithful received image of `e` with remote text `t`: same class, same arguments,
    no live traceback, `is_remote_exception`, `get_remote_traceback = t`, and the nested
    results are faithful images (`ImgMems`) -/
def ImgT : Exc → Text → Exc → Prop
  | .mk c a _ _ m, t, e' =>
    e'.cls = c ∧ e'.args = a ∧ e'.live = none ∧ e'.cause = .remote t ∧ ImgMems m e'.mem
/-- entry by entry: a plain value is the same value; a `RemoteException(e)` holding text `t` has
    become an image of `e` with text exactly `t`; a bare exception object has become an image
    with the text `RemoteException.__init__` computes for it (prefix ++ its formatted traceback,
    or the remote text it already carried) -/
def ImgMems : Mems → Mems → Prop
  | .nil, m' => m' = .nil
  | .val v r, m' => ∃ r', m' = .val v r' ∧ ImgMems r r'
  | .exc e r, m' => ∃ e' r' t, m' = .exc e' r' ∧ wrapText F p e.live e.cause .dflt = some t ∧
      ImgT e t e' ∧ ImgMems r r'
  | .rem e t r, m' => ∃ e' r', m' = .exc e' r' ∧ ImgT e t e' ∧ ImgMems r r'
end

theorem imgT_iff (e : Exc) (t : Text) (e' : Exc) :
    ImgT F p e t e' ↔ e'.cls = e.cls ∧ e'.args = e.args ∧ e'.live = none ∧ e'.cause = .remote t ∧
      ImgMems F p e.mem e'.mem := by
  cases e with
  | mk c a l k m => rfl

/-- `ImgT` only constrains the top-level text through its `t` -/
theorem imgT_retext (e : Exc) (t t' : Text) (c : Nat) (a : List Nat) (m : Mems)
    (h : ImgT F p e t (.mk c a none (.remote t) m)) : ImgT F p e t' (.mk c a none (.remote t') m) := by
  obtain ⟨h1, h2, -, -, h5⟩ := (imgT_iff F p e t _).mp h
  exact (imgT_iff F p e t' _).mpr ⟨h1, h2, rfl, rfl, h5⟩

theorem wrapWith_eq_some {c : Nat} {a : List Nat} {l : Option Text} {k : Cause} {m m' : Mems}
    {ar : TbArg} {t : Text} (ht : wrapText F p l k ar = some t) (hm : wrapMems F p m = some m') :
    wrapWith F p ar (.mk c a l k m) = some (.mk c a l k m', t) := by
  rw [wrapWith, ht, hm]

theorem wrapMems_exc_eq_some {e w : Exc} {t : Text} {r r' : Mems}
    (hw : wrapWith F p .dflt e = some (w, t)) (hr : wrapMems F p r = some r') :
    wrapMems F p (.exc e r) = some (.rem w t r') := by
  rw [wrapMems, hw, hr]

theorem hopWith_eq_some {e w : Exc} {ar : TbArg} {t : Text} (hw : wrapWith F p ar e = some (w, t)) :
    hopWith F p ar e = some (rebuild t (pk w)) := by
  rw [hopWith, hw]
  rfl

theorem wrapMems_recv : ∀ m : Mems, m.recv = true → ∃ m', wrapMems F p m = some m' ∧ pkMems m' = m := by
  intro m
  induction m using mems_induction with
  | nil => exact fun _ => ⟨.nil, rfl, rfl⟩
  | val v r ih =>
    intro h
    obtain ⟨r', hw, hp⟩ := ih h
    exact ⟨.val v r', by simp only [wrapMems, hw, Option.map_some], congrArg (Mems.val v) hp⟩
  | exc c a l k m r ihm ihr =>
    intro h
    have ⟨he, hr⟩ := (Bool.and_eq_true (Exc.mk c a l k m).recv r.recv).mp h
    obtain ⟨_, _, t, _, heq, hm⟩ := recv_shape _ he
    cases heq
    obtain ⟨m', hwm, hpm⟩ := ihm hm
    obtain ⟨r', hwr, hpr⟩ := ihr hr
    refine ⟨.rem (.mk c a none (.remote t) m') t r',
      wrapMems_exc_eq_some F p (wrapWith_eq_some F p rfl hwm) hwr, ?_⟩
    show Mems.exc (.mk c a none (.remote t) (pkMems m')) (pkMems r') = _
    rw [hpm, hpr]
  | rem c a l k m t r _ _ => exact fun h => nomatch h

theorem pkMems_sent : ∀ m : Mems, m.sent = true → (pkMems m).recv = true := by
  intro m
  induction m using mems_induction with
  | nil => exact fun _ => rfl
  | val v r ih => exact ih
  | exc c a l k m r _ _ => exact fun h => nomatch h
  | rem c a l k m t r ihm ihr =>
    intro h
    have ⟨hm, hr⟩ := (Bool.and_eq_true m.sent r.sent).mp h
    show ((pkMems m).recv && (pkMems r).recv) = true
    rw [ihm hm, ihr hr]
    rfl

theorem imgMems_sent : ∀ m : Mems, m.sent = true → ImgMems F p m (pkMems m) := by
  intro m
  induction m using mems_induction with
  | nil => exact fun _ => rfl
  | val v r ih => exact fun h => ⟨_, rfl, ih h⟩
  | exc c a l k m r _ _ => exact fun h => nomatch h
  | rem c a l k m t r ihm ihr =>
    intro h
    have ⟨hm, hr⟩ := (Bool.and_eq_true m.sent r.sent).mp h
    exact ⟨_, _, rfl, ⟨rfl, rfl, rfl, rfl, ihm hm⟩, ihr hr⟩

theorem wrapMems_img (m : Mems) : m.ok = true →
    ∃ m', wrapMems F p m = some m' ∧ m'.sent = true ∧ ImgMems F p m (pkMems m') := by
  induction m using mems_induction with
  | nil => exact fun _ => ⟨.nil, rfl, rfl, rfl⟩
  | val v r ih =>
    intro h
    obtain ⟨r', hw, hs, hi⟩ := ih h
    exact ⟨.val v r', by simp only [wrapMems, hw, Option.map_some], hs, _, rfl, hi⟩
  | exc c a l k m r ihm ihr =>
    intro h
    have ⟨he, hr⟩ := (Bool.and_eq_true (Exc.mk c a l k m).ok r.ok).mp h
    obtain ⟨t, ht⟩ := wrapText_ok F p _ he
    obtain ⟨m', hwm, hsm, him⟩ := ihm (ok_mem _ he)
    obtain ⟨r', hwr, hsr, hir⟩ := ihr hr
    exact ⟨.rem (.mk c a l k m') t r', wrapMems_exc_eq_some F p (wrapWith_eq_some F p ht hwm) hwr,
      (Bool.and_eq_true _ _).mpr ⟨hsm, hsr⟩, _, _, t, rfl, ht, ⟨rfl, rfl, rfl, rfl, him⟩, hir⟩
  | rem c a l k m t r _ ihr =>
    intro h
    have ⟨hm, hr⟩ := (Bool.and_eq_true m.sent r.ok).mp h
    obtain ⟨r', hw, hs, hi⟩ := ihr hr
    exact ⟨.rem (.mk c a l k m) t r', by simp only [wrapMems, hw, Option.map_some],
      (Bool.and_eq_true _ _).mpr ⟨hm, hs⟩, _, _, rfl, ⟨rfl, rfl, rfl, rfl, imgMems_sent F p m hm⟩, hi⟩

theorem wrapMems_ok : ∀ m : Mems, m.ok = true → ∃ m', wrapMems F p m = some m' ∧ m'.sent = true := by
  intro m h
  obtain ⟨m', hw, hs, -⟩ := wrapMems_img F p m h
  exact ⟨m', hw, hs⟩

theorem imgMems_wrap : ∀ m : Mems, m.ok = true → ∀ m', wrapMems F p m = some m' → ImgMems F p m (pkMems m') := by
  intro m h m' hw
  obtain ⟨m'', hw', -, hi⟩ := wrapMems_img F p m h
  cases hw.symm.trans hw'
  exact hi

theorem hop_first (e : Exc) (ar : TbArg) (hm : e.mem.ok = true) (t : Text)
    (ht : wrapText F p e.live e.cause ar = some t) :
    ∃ m, hopWith F p ar e = some (.mk e.cls e.args none (.remote t) m) ∧ m.recv = true ∧
      ImgMems F p e.mem m := by
  cases e with
  | mk c a l k m0 =>
    obtain ⟨m', hw, hs, hi⟩ := wrapMems_img F p m0 hm
    exact ⟨pkMems m', hopWith_eq_some F p (wrapWith_eq_some F p ht hw), pkMems_sent m' hs, hi⟩

theorem hop_recv (e : Exc) (h : e.recv = true) : hop F p e = some e := by
  obtain ⟨c, a, t, m, rfl, hm⟩ := recv_shape e h
  obtain ⟨m', hw, hp⟩ := wrapMems_recv F p m hm
  rw [hop, hopWith_eq_some F p (wrapWith_eq_some F p rfl hw), ← hp]
  rfl

theorem hop_reraised (c : Nat) (a : List Nat) (t : Text) (m : Mems) (hm : m.recv = true) (own : Text) :
    hop F p ((Exc.mk c a none (.remote t) m).raised own)
      = some (.mk c a none (.remote (p ++ fmtChain F own (.remote t))) m) := by
  obtain ⟨m', hw, hp⟩ := wrapMems_recv F p m hm
  rw [hop, Exc.raised, hopWith_eq_some F p (wrapWith_eq_some F p rfl hw), ← hp]
  rfl

def Hop.pre (h : Hop) (e : Exc) : Exc := match h.reraise with | none => e | some own => e.raised own

theorem step_eq (e : Exc) (h : Hop) : step F e h = hop F h.proc (h.pre e) := rfl

theorem pre_spec (e : Exc) (h : Hop) :
    (h.pre e).cls = e.cls ∧ (h.pre e).args = e.args ∧ (h.pre e).mem = e.mem ∧
      (e.ok = true → (h.pre e).ok = true) := by
  cases e with
  | mk c a l k m =>
    unfold Hop.pre
    cases h.reraise with
    | none => exact ⟨rfl, rfl, rfl, id⟩
    | some own => exact ⟨rfl, rfl, rfl, fun hok => ok_mem _ hok⟩

theorem run_cons_eq (e e1 : Exc) (h : Hop) (hs : List Hop) (h1 : step F e h = some e1) :
    run F e (h :: hs) = run F e1 hs := by
  show (step F e h).bind _ = _
  rw [h1]
  rfl

theorem run_append (e : Exc) (hs hs' : List Hop) :
    run F e (hs ++ hs') = (run F e hs).bind fun e1 => run F e1 hs' :=
  Core.run_append ..

theorem infix_fmt_remote (own t : Text) : t <:+: p ++ fmtChain F own (.remote t) :=
  ⟨p ++ F.rtbHead, F.rtbTail ++ F.causeSep ++ own, by simp [fmtChain, List.append_assoc]⟩

theorem run_recv (c : Nat) (a : List Nat) (m : Mems) (hm : m.recv = true) :
    ∀ (hs : List Hop) (t : Text), ∃ t', run F (.mk c a none (.remote t) m) hs = some (.mk c a none (.remote t') m)
      ∧ t <:+: t' ∧ ((∀ h ∈ hs, h.reraise = none) → t' = t) := by
  intro hs
  induction hs with
  | nil => exact fun t => ⟨t, rfl, List.infix_refl _, fun _ => rfl⟩
  | cons h hs ih =>
    intro t
    cases hr : h.reraise with
    | none =>
      have hstep : step F (.mk c a none (.remote t) m) h = some (.mk c a none (.remote t) m) := by
        rw [step_eq, Hop.pre, hr]
        exact hop_recv F h.proc _ ((Bool.and_eq_true _ _).mpr ⟨rfl, hm⟩)
      obtain ⟨t', h1, h2, h3⟩ := ih t
      refine ⟨t', ?_, h2, fun hall => h3 fun x hx => hall x (List.mem_cons_of_mem _ hx)⟩
      rw [run_cons_eq F _ _ h hs hstep]
      exact h1
    | some own =>
      have hstep : step F (.mk c a none (.remote t) m) h
          = some (.mk c a none (.remote (h.proc ++ fmtChain F own (.remote t))) m) := by
        rw [step_eq, Hop.pre, hr]
        exact hop_reraised F h.proc c a t m hm own
      obtain ⟨t', h1, h2, -⟩ := ih (h.proc ++ fmtChain F own (.remote t))
      refine ⟨t', ?_, (infix_fmt_remote F h.proc own t).trans h2, fun hall => ?_⟩
      · rw [run_cons_eq F _ _ h hs hstep]
        exact h1
      · cases hr.symm.trans (hall h List.mem_cons_self)

/-- every run of an exception that carries tracebacks, first hop `h0`, then `hs`; what
    `Props/C15.lean` says about runs is read off this -/
theorem run_ok (e : Exc) (hok : e.ok = true) (h0 : Hop) (hs : List Hop) :
    ∃ t0 t m, wrapText F h0.proc (h0.pre e).live (h0.pre e).cause .dflt = some t0 ∧
      m.recv = true ∧ ImgMems F h0.proc e.mem m ∧
      step F e h0 = some (.mk e.cls e.args none (.remote t0) m) ∧
      run F e (h0 :: hs) = some (.mk e.cls e.args none (.remote t) m) ∧
      t0 <:+: t ∧ ((∀ h ∈ hs, h.reraise = none) → t = t0) := by
  obtain ⟨hc, ha, hmem, hpre⟩ := pre_spec e h0
  obtain ⟨t0, ht⟩ := wrapText_ok F h0.proc (h0.pre e) (hpre hok)
  obtain ⟨m, h1, hm, hi⟩ := hop_first F h0.proc (h0.pre e) .dflt (ok_mem _ (hpre hok)) t0 ht
  rw [hc, ha] at h1
  rw [hmem] at hi
  obtain ⟨t, h2, h3, h4⟩ := run_recv F e.cls e.args m hm hs t0
  exact ⟨t0, t, m, ht, hm, hi, h1, (run_cons_eq F e _ h0 hs h1).trans h2, h3, h4⟩

end RemoteExc
