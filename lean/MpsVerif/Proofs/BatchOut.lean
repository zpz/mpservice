import MpsVerif.Proofs.BatchCount
/-!
Output side of the batching-worker model: what is written to `q_out` for the members of a
batch.  Counting (`EmitInv`): the value / call-error outputs for a uid plus its occurrences in batches
that are inside `call` or waiting for their outputs equal its occurrences in recorded calls;
linking (`LinkInv`): every such output names a call the uid was a member of, and a call whose entry is
gone has delivered one and the same outcome to every one of its members.
-/
namespace Batch

/-- the batch of an entry that has entered `call` (outputs not yet written) -/
def eb (e : PEnt) : List Req := if e.st = .queued then [] else e.batch

def entered (w : W) : List Req := w.pd.flatMap eb

def isVal (u : Nat) : Out → Bool
  | .res u' (.val _) => u' == u
  | .res u' (.callErr _) => u' == u
  | _ => false

def valCnt (u : Nat) (out : List Out) : Nat := out.countP (isVal u)

@[simp] theorem valCnt_append (u : Nat) (a b : List Out) : valCnt u (a ++ b) = valCnt u a + valCnt u b := by
  simp [valCnt]
@[simp] theorem valCnt_sentinel (u i : Nat) : valCnt u [.sentinel i] = 0 := by simp [valCnt, isVal]
@[simp] theorem valCnt_short (u : Nat) (r : Req) : valCnt u [.res r.uid (shortRes r.kind)] = 0 := by
  cases hk : r.kind <;> simp [valCnt, isVal, shortRes]
@[simp] theorem valCnt_outsOf (u : Nat) (b : List Req) (cid : Nat) (ok : Bool) :
    valCnt u (outsOf b cid ok) = cntU u b := by
  unfold valCnt outsOf cntU
  rw [List.countP_map]
  congr 1
  funext r
  cases ok <;> rfl

def enteredCnt (u : Nat) (k : Nat) (ws : Nat → W) : Nat := wsum k (fun j => cntU u (entered (ws j)))

def EmitInv (c : Cfg) (s : State) : Prop :=
  ∀ u, valCnt u s.out + enteredCnt u c.k s.ws = cntU u (calledAll s)

theorem emit_init (c : Cfg) : EmitInv c init :=
  fun u => by simp [init, calledAll, valCnt, enteredCnt, wsum_zero (f := fun _ => cntU u (entered {})) fun _ _ => rfl]

theorem emit_worker {c : Cfg} {s : State} {i : Nat} {w : W} {q : List Item} {l : Option Nat} {o : List Out}
    {cs : List Call} (hi : i < c.k) (h : EmitInv c s)
    (hd : ∀ u, valCnt u o + cntU u (entered w) + cntU u (s.calls.flatMap (·.batch)) =
      valCnt u s.out + cntU u (entered (s.ws i)) + cntU u (cs.flatMap (·.batch))) :
    EmitInv c { setW s i w with qin := q, lock := l, out := o, calls := cs } := by
  intro u
  have h1 := h u
  have h2 := wsum_setW (fun w => cntU u (entered w)) hi s w
  have h3 := hd u
  simp only [enteredCnt, calledAll] at h1 ⊢
  omega

theorem emit_step (c : Cfg) (s : State) (a : Act) (s' : State) (h : EmitInv c s) (hs : Step c s a s') :
    EmitInv c s' := by
  cases hs with
  | arrive | stop | tick => exact h
  | sGetShort => exact fun u => by simpa [calledAll] using h u
  | cPutStop | cPutShort | gFirstStop | sGetStop | gRelease | sGetGood | emit =>
    exact emit_worker ‹_› h fun u => by simp +arith [entered, eb, *]
  | callEnter hi he hst | callRet _ hi he hst =>
    obtain ⟨a, b, hl, hset⟩ := set_split he
    exact emit_worker hi h fun u => by simp +arith [entered, eb, hset, hl, hst]
  | _ => exact emit_worker ‹_› h fun _ => rfl

theorem emit_reachable {c : Cfg} {s : State} (hr : Reachable c s) : EmitInv c s :=
  reachable_inv (emit_init c) (emit_step c) hr

def cidOf : PSt → Option Nat
  | .queued => none
  | .running cid => some cid
  | .done cid _ => some cid

def OutOk (calls : List Call) : Out → Prop
  | .res u (.val v) => v = u ∧ ∃ cl ∈ calls, ∃ r ∈ cl.batch, r.uid = u
  | .res u (.callErr cid) => ∃ cl, calls[cid]? = some cl ∧ ∃ r ∈ cl.batch, r.uid = u
  | _ => True

def EntOk (calls : List Call) (e : PEnt) : Prop :=
  ∀ cid, cidOf e.st = some cid → ∃ cl, calls[cid]? = some cl ∧ cl.batch = e.batch

def outcome (cid : Nat) (ok : Bool) (r : Req) : Out := .res r.uid (if ok then .val r.uid else .callErr cid)

structure LinkInv (s : State) : Prop where
  pd : ∀ i, ∀ e ∈ (s.ws i).pd, EntOk s.calls e
  out : ∀ o ∈ s.out, OutOk s.calls o
  done : ∀ cid cl, s.calls[cid]? = some cl →
        (∃ e ∈ (s.ws cl.w).pd, cidOf e.st = some cid) ∨ (∃ ok, ∀ r ∈ cl.batch, outcome cid ok r ∈ s.out)

theorem getElem?_snoc_of_some {α : Type} {l : List α} {i : Nat} {a : α} (h : l[i]? = some a) (x : α) :
    (l ++ [x])[i]? = some a :=
  (List.getElem?_append_left (List.getElem?_eq_some_iff.mp h).1).trans h

theorem getElem?_snoc {α : Type} {l : List α} {i : Nat} {a x : α} (h : (l ++ [x])[i]? = some a) :
    l[i]? = some a ∨ (i = l.length ∧ a = x) := by
  rcases Nat.lt_trichotomy i l.length with hlt | rfl | hgt
  · exact .inl (List.getElem?_append_left hlt ▸ h)
  · exact .inr ⟨rfl, Option.some.inj (h.symm.trans List.getElem?_concat_length)⟩
  · have hlen : (l ++ [x]).length ≤ i := by
      rw [List.length_append, List.length_singleton]
      omega
    rw [List.getElem?_eq_none hlen] at h
    cases h

theorem OutOk.mono {calls : List Call} {x : Call} {o : Out} (h : OutOk calls o) : OutOk (calls ++ [x]) o := by
  cases o with
  | sentinel w => trivial
  | res u r =>
    cases r with
    | val v =>
      obtain ⟨h1, cl, hcl, h2⟩ := h
      exact ⟨h1, cl, List.mem_append_left _ hcl, h2⟩
    | callErr cid =>
      obtain ⟨cl, hcl, h2⟩ := h
      exact ⟨cl, getElem?_snoc_of_some hcl x, h2⟩
    | preErr => trivial
    | inErr => trivial

theorem EntOk.mono {calls : List Call} {x : Call} {e : PEnt} (h : EntOk calls e) : EntOk (calls ++ [x]) e :=
  fun cid hc => let ⟨cl, hcl, hb⟩ := h cid hc; ⟨cl, getElem?_snoc_of_some hcl x, hb⟩

theorem OutOk_short {calls : List Call} (r : Req) : OutOk calls (.res r.uid (shortRes r.kind)) := by
  cases hk : r.kind <;> simp [shortRes, OutOk]

theorem link_init : LinkInv init := ⟨nofun, nofun, nofun⟩

theorem link_keep {s : State} (h : LinkInv s) {i : Nat} {w : W} {q : List Item} {l : Option Nat} {o : List Out}
    (hpd : ∀ e ∈ w.pd, EntOk s.calls e)
    (hhas : ∀ cid, (∃ e ∈ (s.ws i).pd, cidOf e.st = some cid) → ∃ e ∈ w.pd, cidOf e.st = some cid)
    (extra : List Out) (ho : o = s.out ++ extra) (hex : ∀ x ∈ extra, OutOk s.calls x) :
    LinkInv { setW s i w with qin := q, lock := l, out := o } := by
  subst ho
  refine ⟨forall_setW (P := fun w => ∀ e ∈ w.pd, EntOk s.calls e) h.pd hpd, ?_, ?_⟩
  · intro x hx
    exact (List.mem_append.mp hx).elim (h.out x) (hex x)
  · intro cid cl hcl
    rcases h.done cid cl hcl with hh | ⟨ok, hall⟩
    · left
      show ∃ e ∈ ((setW s i w).ws cl.w).pd, _
      by_cases hj : cl.w = i
      · rw [hj, setW_same]
        exact hhas cid (hj ▸ hh)
      · rw [setW_other _ _ hj]
        exact hh
    · exact .inr ⟨ok, fun r hr => List.mem_append_left _ (hall r hr)⟩

theorem link_frame {s : State} (h : LinkInv s) {i : Nat} {w : W} {q : List Item} {l : Option Nat}
    (hw : w.pd = (s.ws i).pd) : LinkInv { setW s i w with qin := q, lock := l } :=
  link_keep h (hw ▸ h.pd i) (fun _ hh => hw ▸ hh) [] (List.append_nil _).symm nofun

theorem link_step (c : Cfg) (s : State) (a : Act) (s' : State) (h : LinkInv s) (hs : Step c s a s') :
    LinkInv s' := by
  cases hs with
  | arrive | stop | tick => exact ⟨h.pd, h.out, h.done⟩
  | @sGetShort _ r =>
    refine ⟨h.pd, fun o ho => (List.mem_append.mp ho).elim (h.out o) fun ho => ?_, fun cid cl hcl => ?_⟩
    · rw [List.mem_singleton.mp ho]
      exact OutOk_short r
    · exact (h.done cid cl hcl).imp_right fun ⟨ok, hall⟩ => ⟨ok, fun r hr => List.mem_append_left _ (hall r hr)⟩
  | cPutStop | gFirstStop | sGetStop =>
    exact link_keep h (h.pd _) (fun _ hh => hh) [.sentinel _] rfl fun x hx => List.mem_singleton.mp hx ▸ trivial
  | @cPutShort _ r =>
    exact link_keep h (h.pd _) (fun _ hh => hh) [_] rfl fun x hx => List.mem_singleton.mp hx ▸ OutOk_short r
  | gRelease | sGetGood =>
    exact link_keep h (forall_mem_snoc (h.pd _) nofun) (fun _ ⟨e, he, hc⟩ => ⟨e, List.mem_append_left _ he, hc⟩) []
      (List.append_nil _).symm nofun
  | @callRet i j e cid0 ok _ he hst =>
    refine link_keep h (forall_mem_set (h.pd i) fun cid hc => ?_) ?_ [] (List.append_nil _).symm nofun
    · exact h.pd i e (List.mem_of_getElem? he) cid (hst ▸ hc)
    · rintro cid ⟨x, hx, hc⟩
      rcases mem_set_of_mem he hx with rfl | hx
      · rw [hst] at hc
        exact ⟨_, mem_set_self he, hc⟩
      · exact ⟨x, hx, hc⟩
  | @callEnter i j e _ he hst =>
    refine ⟨?_, fun o ho => (h.out o ho).mono, fun cid cl hcl => ?_⟩
    · refine forall_setW (P := fun w => ∀ e ∈ w.pd, EntOk _ e) (fun j e' he' => (h.pd j e' he').mono) ?_
      refine forall_mem_set (fun e' he' => (h.pd i e' he').mono) fun cid hc => ?_
      cases hc
      exact ⟨_, List.getElem?_concat_length, rfl⟩
    · show (∃ e' ∈ ((setW s i _).ws cl.w).pd, _) ∨ _
      rcases getElem?_snoc hcl with hcl | ⟨rfl, rfl⟩
      · refine (h.done cid cl hcl).imp_left fun ⟨x, hx, hc⟩ => ?_
        by_cases hj : cl.w = i
        · rw [hj, setW_same]
          rcases mem_set_of_mem he (hj ▸ hx) with rfl | hx
          · rw [hst] at hc
            cases hc
          · exact ⟨x, hx, hc⟩
        · rw [setW_other _ _ hj]
          exact ⟨x, hx, hc⟩
      · left
        rw [setW_same]
        exact ⟨_, mem_set_self he, rfl⟩
  | @emit i e rest cid0 ok _ hp hst =>
    obtain ⟨cl0, hcl0, hb0⟩ := h.pd i e (hp ▸ List.mem_cons_self) cid0 (hst ▸ rfl)
    refine ⟨forall_setW (P := fun w => ∀ e ∈ w.pd, EntOk _ e) h.pd fun e' he' => h.pd i e' (mem_of_tail hp he'), ?_, ?_⟩
    · intro o ho
      rcases List.mem_append.mp ho with h1 | h1
      · exact h.out o h1
      · obtain ⟨r, hr, rfl⟩ := List.mem_map.mp h1
        cases ok with
        | true => exact ⟨rfl, cl0, List.mem_of_getElem? hcl0, r, hb0 ▸ hr, rfl⟩
        | false => exact ⟨cl0, hcl0, r, hb0 ▸ hr, rfl⟩
    · intro cid cl hcl
      show (∃ e' ∈ ((setW s i _).ws cl.w).pd, _) ∨ _
      rcases h.done cid cl hcl with ⟨e', he', hc⟩ | ⟨ok', hall⟩
      · by_cases hj : cl.w = i
        · rw [hj, hp] at he'
          rcases List.mem_cons.mp he' with h1 | h1
          · rw [h1, hst] at hc
            cases hc
            cases hcl0.symm.trans hcl
            exact .inr ⟨ok, fun r hr => List.mem_append_right _ (List.mem_map.mpr ⟨r, hb0 ▸ hr, rfl⟩)⟩
          · rw [hj, setW_same]
            exact .inl ⟨e', h1, hc⟩
        · rw [setW_other _ _ hj]
          exact .inl ⟨e', he', hc⟩
      · exact .inr ⟨ok', fun r hr => List.mem_append_left _ (hall r hr)⟩
  | _ => exact link_frame h rfl

theorem link_reachable {c : Cfg} {s : State} (hr : Reachable c s) : LinkInv s :=
  reachable_inv link_init (link_step c) hr

end Batch
