import MpsVerif.Proofs.EagerInv
/-! The closed form: under zero processing time, and as long as no entry is taken at exactly
    `t0 + wait` of an open batch (a tie), the batches of the model are the greedy grouping `greedy` of
    the take-stamped sequence.  `Rel` is the simulation relation between a model state and
    `greedy c s.takenAt`; the model may be one step behind the grouping (a full or marker-cut batch is
    closed by `feed` at the take, by the model at the following `emit`: `Ahead`) or ahead of it (an
    expired batch is handed out by the model at `t0 + wait`, closed by `feed` only at the next take:
    `Behind`). -/
namespace Eager

theorem greedy_snoc (c : Cfg) (l : List (Item × Nat)) (p : Item × Nat) :
    greedy c (l ++ [p]) = feed c (greedy c l) p :=
  List.foldl_append

theorem expire_tie (c : Cfg) (g : Grp) (t : Nat) : (g.expire c t).tie = g.tie := by
  unfold Grp.expire
  split <;> rfl

theorem expire_fin (c : Cfg) (g : Grp) (t : Nat) : (g.expire c t).fin = g.fin := by
  unfold Grp.expire
  split <;> rfl

theorem add_tie (c : Cfg) (g : Grp) (p : Item × Nat) : (g.add c p).tie = g.tie := by
  unfold Grp.add
  simp only [apply_ite Grp.tie, ite_self]

theorem expire_closed {c : Cfg} {g : Grp} {t : Nat} (hc : g.cur = []) : g.expire c t = g :=
  if_neg (fun h => h.1 hc)

theorem expire_within (c : Cfg) (g : Grp) (t : Nat) (h : t ≤ g.t0 + c.wait) : g.expire c t = g :=
  if_neg (fun h' => Nat.not_lt.mpr h h'.2)

theorem expire_after {c : Cfg} {g : Grp} {t : Nat} (hc : g.cur ≠ []) (h : g.t0 + c.wait < t) :
    g.expire c t = { g with out := g.out ++ [g.cur], outAt := g.outAt ++ [g.t0 + c.wait], cur := [] } :=
  if_pos ⟨hc, h⟩

theorem feed_eq {c : Cfg} {g : Grp} {p : Item × Nat} (hf : g.fin = false)
    (ht : (feed c g p).tie = false) :
    g.tie = false ∧ g.isTie c p = false ∧ feed c g p = (g.expire c p.2).add c p := by
  have hfeed : feed c g p = Grp.add c (Grp.expire c { g with tie := g.tie || g.isTie c p } p.2) p :=
    if_neg (by rw [hf]; exact Bool.false_ne_true)
  rw [hfeed, add_tie, expire_tie] at ht
  obtain ⟨h1, h2⟩ := Bool.or_eq_false_iff.mp ht
  have hg : ({ g with tie := g.tie || g.isTie c p } : Grp) = g := by
    rw [h1, h2]
    cases g
    exact congrArg _ h1.symm
  rw [hg] at hfeed
  exact ⟨h1, h2, hfeed⟩

theorem feed_tie_mono {c : Cfg} {g : Grp} {p : Item × Nat} (ht : (feed c g p).tie = false) :
    g.tie = false := by
  cases hf : g.fin with
  | true => rwa [feed, if_pos hf] at ht
  | false => exact (feed_eq hf ht).1

def Sync (s : State) (g : Grp) : Prop :=
  g.out = s.out ∧ g.outAt = s.outAt ∧ g.cur = s.cur ∧ (s.cur ≠ [] → g.t0 = s.t0) ∧ g.fin = s.fin

def Ahead (s : State) (g : Grp) : Prop :=
  g.out = s.out ++ [s.cur] ∧ g.outAt = s.outAt ++ [s.clock] ∧ g.cur = [] ∧ g.fin = s.fin

def Behind (c : Cfg) (s : State) (g : Grp) : Prop :=
  s.cur = [] ∧ g.cur ≠ [] ∧ s.out = g.out ++ [g.cur] ∧ s.outAt = g.outAt ++ [g.t0 + c.wait] ∧
  g.t0 + c.wait ≤ s.clock ∧ g.fin = false ∧ s.fin = false

def RelAt (c : Cfg) (s : State) (g : Grp) : Pc → Prop
  | .idle | .held => Sync s g ∨ Behind c s g
  | .coll | .closing | .done => Sync s g
  | .flush => (Sync s g ∧ s.fin = false ∧ s.cur.length < c.bs) ∨ Ahead s g

theorem closed_of_relAt {c : Cfg} {s : State} {g : Grp} {p : Pc} (hr : RelAt c s g p)
    (hflush : p = .flush → s.cur ≠ []) :
    s.out ++ (if s.cur = [] then [] else [s.cur]) = g.closed ∧
    (s.cur = [] → s.outAt = g.closedAt c) := by
  have sync : Sync s g → s.out ++ (if s.cur = [] then [] else [s.cur]) = g.closed ∧
      (s.cur = [] → s.outAt = g.closedAt c) := by
    intro ⟨a1, a2, a3, _, _⟩
    unfold Grp.closed Grp.closedAt
    rw [a1, a2, a3]
    split
    · exact ⟨List.append_nil _, fun _ => rfl⟩
    · rename_i hc
      exact ⟨rfl, fun h => absurd h hc⟩
  have behind : Behind c s g → s.out ++ (if s.cur = [] then [] else [s.cur]) = g.closed ∧
      (s.cur = [] → s.outAt = g.closedAt c) := by
    intro ⟨b1, b2, b3, b4, _⟩
    unfold Grp.closed Grp.closedAt
    rw [if_pos b1, if_neg b2, if_neg b2, b3, b4]
    exact ⟨List.append_nil _, fun _ => rfl⟩
  cases p with
  | idle | held => exact hr.elim sync behind
  | coll | closing | done => exact sync hr
  | flush =>
    rcases hr with ⟨h, _⟩ | ⟨b1, _, b3, _⟩
    · exact sync h
    · have hc := hflush rfl
      unfold Grp.closed
      rw [if_neg hc, if_pos b3, b1]
      exact ⟨rfl, fun h => absurd h hc⟩

def Rel (c : Cfg) (s : State) : Prop :=
  (greedy c s.takenAt).tie = false → RelAt c s (greedy c s.takenAt) s.pc

theorem rel_init (c : Cfg) : Rel c init :=
  fun _ => .inl ⟨rfl, rfl, rfl, fun _ => rfl, rfl⟩

/-- a take between batches: the grouping has no open batch, or one that has expired, which the
    tie-free entry closes; either way the entry is added to a grouping `g1` in step with the model -/
theorem feed_idle {c : Cfg} {s : State} {g : Grp} {z : Item} (hc : s.cur = []) (hf : s.fin = false)
    (hr : Sync s g ∨ Behind c s g) (ht : (feed c g (z, s.clock)).tie = false) :
    ∃ g1 : Grp, feed c g (z, s.clock) = g1.add c (z, s.clock) ∧
      g1.out = s.out ∧ g1.outAt = s.outAt ∧ g1.cur = [] ∧ g1.fin = false := by
  rcases hr with ⟨a1, a2, a3, _, a5⟩ | ⟨_, b2, b3, b4, b5, b6, _⟩
  · obtain ⟨_, _, hfe⟩ := feed_eq (a5.trans hf) ht
    rw [expire_closed (a3.trans hc)] at hfe
    exact ⟨g, hfe, a1, a2, a3.trans hc, a5.trans hf⟩
  · obtain ⟨_, hnt, hfe⟩ := feed_eq b6 ht
    have hne : s.clock ≠ g.t0 + c.wait := by
      simpa [Grp.isTie, b2] using hnt
    rw [expire_after b2 (Nat.lt_of_le_of_ne b5 hne.symm)] at hfe
    exact ⟨_, hfe, b3.symm, b4.symm, rfl, b6⟩

theorem feed_coll {c : Cfg} {s : State} {g : Grp} {z : Item} (hf : s.fin = false)
    (hcur : s.cur ≠ []) (hle : s.clock ≤ s.t0 + c.wait) (hr : Sync s g)
    (ht : (feed c g (z, s.clock)).tie = false) : feed c g (z, s.clock) = g.add c (z, s.clock) := by
  obtain ⟨_, _, _, a4, a5⟩ := hr
  obtain ⟨_, _, hfe⟩ := feed_eq (a5.trans hf) ht
  rwa [expire_within c g _ (by rw [a4 hcur]; exact hle)] at hfe

theorem rel_step (c : Cfg) (hstrict : c.strict = true) (s : State) (a : Act) (s' : State)
    (hi : Inv c s) (hR : Rel c s) (hs : Step c s a s') : Rel c s' := by
  cases hs with
  | arrive x => exact hR
  | tick d hd hg =>
    intro ht
    have hr := hR ht
    show RelAt c _ _ s.pc
    cases hpc : s.pc <;> rw [hpc] at hr
    case idle | held =>
      exact hr.imp_right fun ⟨b1, b2, b3, b4, b5, b6⟩ => ⟨b1, b2, b3, b4, Nat.le_trans b5 (Nat.le_add_right _ _), b6⟩
    case coll | closing | done => exact hr
    case flush =>
      rw [hpc, hstrict] at hg
      simp at hg
  | takeIdleEnd hq hpc he =>
    rename_i z rest
    obtain ⟨hc, hf⟩ := hi.idle hpc
    intro ht
    show Sync _ (greedy c (s.takenAt ++ [(z, s.clock)]))
    replace ht : (greedy c (s.takenAt ++ [(z, s.clock)])).tie = false := ht
    rw [greedy_snoc] at ht ⊢
    have hr := hR (feed_tie_mono ht)
    rw [hpc] at hr
    obtain ⟨g1, hfe, k1, k2, k3, k4⟩ := feed_idle hc hf hr ht
    rw [hfe]
    simp [Grp.add, he, k3, Sync, k1, k2, hc]
  | takeIdleItem hq hpc he =>
    rename_i z rest
    obtain ⟨hc, hf⟩ := hi.idle hpc
    intro ht
    replace ht : (greedy c (s.takenAt ++ [(z, s.clock)])).tie = false := ht
    show RelAt c _ (greedy c (s.takenAt ++ [(z, s.clock)])) (if 1 < c.bs then .coll else .flush)
    rw [greedy_snoc] at ht ⊢
    have hr := hR (feed_tie_mono ht)
    rw [hpc] at hr
    obtain ⟨g1, hfe, k1, k2, k3, k4⟩ := feed_idle hc hf hr ht
    rw [hfe]
    split
    · rename_i hb
      show Sync _ _
      simp [Grp.add, he, k3, hb, Sync, k1, k2, k4, hf]
    · rename_i hb
      refine .inr ?_
      simp [Grp.add, he, k3, hb, Ahead, k1, k2, k4, hf]
  | takeCollEnd hq hpc he =>
    rename_i z rest
    obtain ⟨hc1, _, hf, _, hc4⟩ := hi.coll hpc
    have hcne : s.cur ≠ [] := List.ne_nil_of_length_pos hc1
    intro ht
    replace ht : (greedy c (s.takenAt ++ [(z, s.clock)])).tie = false := ht
    refine .inr ?_
    show Ahead _ (greedy c (s.takenAt ++ [(z, s.clock)]))
    rw [greedy_snoc] at ht ⊢
    have hr := hR (feed_tie_mono ht)
    rw [hpc] at hr
    obtain ⟨a1, a2, a3, _, _⟩ := id hr
    rw [feed_coll hf hcne (hc4 hstrict) hr ht]
    simp [Grp.add, he, hcne, Ahead, a1, a2, a3]
  | takeCollItem hq hpc he =>
    rename_i z rest
    obtain ⟨hc1, _, hf, _, hc4⟩ := hi.coll hpc
    have hcne : s.cur ≠ [] := List.ne_nil_of_length_pos hc1
    intro ht
    replace ht : (greedy c (s.takenAt ++ [(z, s.clock)])).tie = false := ht
    show RelAt c _ (greedy c (s.takenAt ++ [(z, s.clock)])) (if s.cur.length + 1 < c.bs then .coll else .flush)
    rw [greedy_snoc] at ht ⊢
    have hr := hR (feed_tie_mono ht)
    rw [hpc] at hr
    obtain ⟨a1, a2, a3, a4, a5⟩ := id hr
    rw [feed_coll hf hcne (hc4 hstrict) hr ht]
    split
    · rename_i hb
      show Sync _ _
      simp [Grp.add, he, a3, hb, hcne, Sync, a1, a2, a4 hcne, a5]
    · rename_i hb
      refine .inr ?_
      simp [Grp.add, he, a3, hb, Ahead, a1, a2, a5]
  | timeout hpc hq ht =>
    obtain ⟨_, hc2, hf, _, _⟩ := hi.coll hpc
    intro htie
    have hr := hR htie
    rw [hpc] at hr
    exact .inl ⟨hr, hf, hc2⟩
  | emit hpc =>
    obtain ⟨h1, _, h3⟩ := hi.flush hpc
    have hcne : s.cur ≠ [] := List.ne_nil_of_length_pos h1
    intro htie
    have hr := hR htie
    rw [hpc] at hr
    rcases hr with ⟨⟨a1, a2, a3, a4, a5⟩, hf, hshort⟩ | ⟨b1, b2, b3, b4⟩
    · -- a short batch goes out at expiry, exactly `t0 + wait`; the grouping still holds it open
      have hclk : s.clock = s.t0 + c.wait := (h3 hf hshort).2.1 hstrict
      refine .inr ⟨rfl, a3 ▸ hcne, ?_, ?_, ?_, a5.trans hf, hf⟩
      · show s.out ++ [s.cur] = _
        rw [a1, a3]
      · show s.outAt ++ [s.clock] = _
        rw [a2, a4 hcne, hclk]
      · show (greedy c s.takenAt).t0 + c.wait ≤ s.clock
        rw [a4 hcne, hclk]
        exact Nat.le_refl _
    · exact .inl ⟨b1, b2, b3, fun h => absurd rfl h, b4⟩
  | resume hpc =>
    intro htie
    have hr := hR htie
    rw [hpc] at hr
    show RelAt c _ _ (if s.fin = true then .closing else .idle)
    split
    · rename_i hf
      rcases hr with h | h
      · exact h
      · rw [h.2.2.2.2.2.2] at hf
        cases hf
    · exact hr
  | stop hpc =>
    intro htie
    have hr := hR htie
    rw [hpc] at hr
    exact hr

theorem rel_reachable (c : Cfg) (hbs : 1 ≤ c.bs) (hstrict : c.strict = true) {s : State}
    (hr : Reachable c s) : Rel c s :=
  (reachable_inv c (Inv := fun s => Inv c s ∧ Rel c s) ⟨inv_init c, rel_init c⟩
    (fun s a s' hi hs => ⟨inv_step c hbs s a s' hi.1 hs, rel_step c hstrict s a s' hi.1 hi.2 hs⟩) hr).2

end Eager
