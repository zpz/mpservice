import MpsVerif.Proofs.TeeLive
/-! Fair termination of the `tee` model: no infinite execution is weakly fair. -/
namespace Tee

/-- program points of the timed lock retry loops -/
def Pc.spin : Pc → Bool
  | .hLoop | .hAcq | .wLoop | .wAcq => true
  | _ => false

def spinNext : Pc → Pc
  | .hLoop => .hAcq | .hAcq => .hLoop | .wLoop => .wAcq | .wAcq => .wLoop | p => p

theorem spin_of_isSpin {c : Cfg} {s : State} {a : Act} (h : isSpin c s a = true) :
    (s.forks a.f).pc.spin = true := by
  simp only [isSpin] at h
  split at h
  next hp =>
    rw [hp]
    rfl
  next hp =>
    rw [hp]
    rfl
  next hp =>
    rw [hp]
    rfl
  next hp =>
    rw [hp]
    rfl
  next => cases h

theorem spinNext_spin {p : Pc} : p.spin = true → (spinNext p).spin = true := by
  cases p <;> exact id

theorem spin_shape {c : Cfg} {s : State} {a : Act} {s' : State} (hsp : isSpin c s a = true)
    (hs : step c s a = some s') :
    s' = setFork s a.f { s.forks a.f with pc := spinNext (s.forks a.f).pc } ∧ (s.forks a.f).pc.spin = true ∧
      (spinNext (s.forks a.f).pc).spin = true := by
  have hpc := spin_of_isSpin hsp
  refine ⟨?_, hpc, spinNext_spin hpc⟩
  cases step_sound c s s' a hs
  case hgetLoop f _ hp =>
    rw [isSpin_hLoop hp] at hsp
    show setFork s f { s.forks f with pc := if s.linked = 0 then .hAcq else .hNext } = _
    rw [if_pos (eq_of_beq hsp), hp]
    rfl
  case acqFailH f _ _ hp =>
    show setFork s f { s.forks f with pc := .hLoop } = _
    rw [hp]
    rfl
  case acqFailW f _ _ hp =>
    show setFork s f { s.forks f with pc := .wLoop } = _
    rw [hp]
    rfl
  case ngetLoop f j _ hc hp =>
    rw [isSpin_wLoop hp] at hsp
    have hm : condMet c s.linked (s.forks f) = false := by
      cases h : condMet c s.linked (s.forks f)
      · rfl
      · rw [h] at hsp
        cases hsp
    simp only [condMet, hc, Bool.or_eq_false_iff, decide_eq_false_iff_not] at hm
    show setFork s f { s.forks f with
      pc := (if j + 1 < s.linked then .bAcq else if isExc c j = true then .bAcq else .wAcq) } = _
    rw [if_neg hm.1, hm.2, hp]
    rfl
  case acqOkH | acqOkW => cases hsp
  all_goals
    rename_i hp
    rw [hp] at hpc
    cases hpc

/-- two fork states that differ at most by the position inside a retry loop -/
def FSame (a b : Fork) : Prop := a = b ∨ (a.pc.spin = true ∧ b.pc.spin = true ∧ b = { a with pc := b.pc })

/-- two states that differ at most by where spinners are inside their retry loops -/
structure Same (s s' : State) : Prop where
  pulled : s'.pulled = s.pulled
  raised : s'.raised = s.raised
  endPulls : s'.endPulls = s.endPulls
  boxes : s'.boxes = s.boxes
  linked : s'.linked = s.linked
  put : s'.put = s.put
  popped : s'.popped = s.popped
  cnt : s'.cnt = s.cnt
  lock : s'.lock = s.lock
  forks : ∀ g, FSame (s.forks g) (s'.forks g)

theorem Same.refl (s : State) : Same s s :=
  ⟨rfl, rfl, rfl, rfl, rfl, rfl, rfl, rfl, rfl, fun _ => Or.inl rfl⟩

theorem Same.spin_step {c : Cfg} {s0 s : State} {a : Act} {s' : State} (h : Same s0 s)
    (hsp : isSpin c s a = true) (hs : step c s a = some s') : Same s0 s' := by
  obtain ⟨rfl, hp1, hp2⟩ := spin_shape hsp hs
  refine ⟨h.pulled, h.raised, h.endPulls, h.boxes, h.linked, h.put, h.popped, h.cnt, h.lock, ?_⟩
  intro g
  by_cases hg : g = a.f
  · subst hg
    simp only [setFork_same]
    rcases h.forks a.f with e | ⟨e1, _, e3⟩
    · right
      rw [e]
      exact ⟨hp1, hp2, rfl⟩
    · right
      refine ⟨e1, hp2, ?_⟩
      rw [e3]
  · rw [setFork_ne _ _ hg]
    exact h.forks g

theorem holdsBox_spin (fk : Fork) (j : Nat) (h : fk.pc.spin = true) : holdsBox fk j = false := by
  refine holdsBox_outside ?_ j
  cases hp : fk.pc
  case bInc | bIncW | bCmp | bGet | bRel =>
    rw [hp] at h
    cases h
  all_goals rfl

theorem holdsBox_fsame {a b : Fork} (j : Nat) (h : FSame a b) : holdsBox b j = holdsBox a j := by
  rcases h with e | ⟨e1, e2, _⟩
  · rw [e]
  · rw [holdsBox_spin a j e1, holdsBox_spin b j e2]

theorem boxFree_same (c : Cfg) (s s' : State) (f j : Nat) (h : Same s s') : boxFree c s' f j = boxFree c s f j := by
  simp only [boxFree]
  congr 1
  funext g
  rw [holdsBox_fsame j (h.forks g)]

/-- what the guard of a step reads is the same in two states that differ only in where other
    forks spin -/
theorem Step.same {c : Cfg} {s t s1 : State} {g : Nat} {k : Kind} (hst : Step c s ⟨g, k⟩ s1) (h : Same s t)
    (hg : t.forks g = s.forks g) : ∃ t1, Step c t ⟨g, k⟩ t1 := by
  have hb := fun j => boxFree_same c s t g j h
  cases hst
  case call hf hp => exact ⟨_, .call hf (hg ▸ hp)⟩
  case hgetChk hf hp => exact ⟨_, .hgetChk hf (hg ▸ hp)⟩
  case hgetLoop hf hp => exact ⟨_, .hgetLoop hf (hg ▸ hp)⟩
  case hgetLocked hf hp => exact ⟨_, .hgetLocked hf (hg ▸ hp)⟩
  case hgetNext hl hf hp => exact ⟨_, .hgetNext hf (h.linked ▸ hl) (hg ▸ hp)⟩
  case acqOkH hl hf hp => exact ⟨_, .acqOkH hf (h.lock ▸ hl) (hg ▸ hp)⟩
  case acqOkW hl hf hp => exact ⟨_, .acqOkW hf (h.lock ▸ hl) (hg ▸ hp)⟩
  case acqFailH hl hf hp => exact ⟨_, .acqFailH hf (h.lock ▸ hl) (hg ▸ hp)⟩
  case acqFailW hl hf hp => exact ⟨_, .acqFailW hf (h.lock ▸ hl) (hg ▸ hp)⟩
  case pullH h1 h2 hf hp => exact ⟨_, .pullH hf (h.pulled ▸ h1) (h.raised ▸ h2) (hg ▸ hp)⟩
  case pullW h1 h2 hf hp => exact ⟨_, .pullW hf (h.pulled ▸ h1) (h.raised ▸ h2) (hg ▸ hp)⟩
  case srcEndH h1 h2 hf hp => exact ⟨_, .srcEndH hf (h.pulled ▸ h1) h2 (hg ▸ hp)⟩
  case srcEndW h1 h2 hf hp => exact ⟨_, .srcEndW hf (h.pulled ▸ h1) h2 (hg ▸ hp)⟩
  case srcExcH h1 h2 h3 hf hp => exact ⟨_, .srcExcH hf (h.pulled ▸ h1) h2 (h.raised ▸ h3) (hg ▸ hp)⟩
  case srcExcW h1 h2 h3 hf hp => exact ⟨_, .srcExcW hf (h.pulled ▸ h1) h2 (h.raised ▸ h3) (hg ▸ hp)⟩
  case putH hw hf hp => exact ⟨_, .putH hf (h.put ▸ h.popped ▸ hw) (hg ▸ hp)⟩
  case putW hw hf hp => exact ⟨_, .putW hf (h.put ▸ h.popped ▸ hw) (hg ▸ hp)⟩
  case hset hf hp => exact ⟨_, .hset hf (hg ▸ hp)⟩
  case relH hf hl hp => exact ⟨_, .relH hf (h.lock ▸ hl) (hg ▸ hp)⟩
  case relStop hf hl hp => exact ⟨_, .relStop hf (h.lock ▸ hl) (hg ▸ hp)⟩
  case relW hf hl hp => exact ⟨_, .relW hf (h.lock ▸ hl) (hg ▸ hp)⟩
  case ngetLoop j hf hc hp => exact ⟨_, .ngetLoop hf (hg ▸ hc) (hg ▸ hp)⟩
  case ngetChk j hf hc hp => exact ⟨_, .ngetChk hf (hg ▸ hc) (hg ▸ hp)⟩
  case ngetAdv j hf hc hp => exact ⟨_, .ngetAdv hf (hg ▸ hc) (hg ▸ hp)⟩
  case nset j hf hc hp => exact ⟨_, .nset hf (hg ▸ hc) (hg ▸ hp)⟩
  case bacq j hf hc hbf hp => exact ⟨_, .bacq hf (hg ▸ hc) ((hb j).trans hbf) (hg ▸ hp)⟩
  case incRead j hf hc hp => exact ⟨_, .incRead hf (hg ▸ hc) (hg ▸ hp)⟩
  case inc j hf hc hp => exact ⟨_, .inc hf (hg ▸ hc) (hg ▸ hp)⟩
  case cmp j hf hc hp => exact ⟨_, .cmp hf (hg ▸ hc) (hg ▸ hp)⟩
  case get hl hf hp => exact ⟨_, .get hf (h.put ▸ h.popped ▸ hl) (hg ▸ hp)⟩
  case brel hf hp => exact ⟨_, .brel hf (hg ▸ hp)⟩
  case recv j hf hp => exact ⟨_, .recv hf (hg ▸ hp)⟩
  case exc hf hp => exact ⟨_, .exc hf (hg ▸ hp)⟩
  case stop hf hp => exact ⟨_, .stop hf (hg ▸ hp)⟩

theorem enabled_same {c : Cfg} {s s' : State} {g : Nat} {k : Kind} (h : Same s s') (hg : s'.forks g = s.forks g)
    (he : (step c s ⟨g, k⟩).isSome = true) : (step c s' ⟨g, k⟩).isSome = true := by
  obtain ⟨s1, hs1⟩ := Option.isSome_iff_exists.mp he
  obtain ⟨t1, ht1⟩ := (step_sound c s s1 _ hs1).same h hg
  rw [step_complete ht1]
  rfl

theorem isSpin_same (c : Cfg) {s s' : State} {g : Nat} (k : Kind) (h : Same s s')
    (hg : s'.forks g = s.forks g) : isSpin c s' ⟨g, k⟩ = isSpin c s ⟨g, k⟩ := by
  simp only [isSpin, hg, h.linked]

/-- in a retry loop the program point and the state of the lock determine which access comes next -/
theorem Step.kind_of_spin {c : Cfg} {s s' : State} {f : Nat} {k : Kind} (h : Step c s ⟨f, k⟩ s')
    (hs : (s.forks f).pc.spin = true) :
    k = match (s.forks f).pc with
      | .hLoop => .hget
      | .wLoop => .nget
      | _ => if s.lock = none then .acqOk else .acqFail := by
  cases h
  case hgetLoop hf hp => rw [hp]
  case ngetLoop j hf hc hp => rw [hp]
  case acqOkH hl hf hp =>
    rw [hp, hl]
    rfl
  case acqOkW hl hf hp =>
    rw [hp, hl]
    rfl
  case acqFailH hl hf hp =>
    rw [hp]
    cases hlk : s.lock
    · rw [hlk] at hl
      cases hl
    · rfl
  case acqFailW hl hf hp =>
    rw [hp]
    cases hlk : s.lock
    · rw [hlk] at hl
      cases hl
    · rfl
  all_goals
    rename_i hp
    rw [hp] at hs
    cases hs

theorem spin_only {c : Cfg} {s : State} {g : Nat} {k1 k2 : Kind} (hsp : isSpin c s ⟨g, k1⟩ = true)
    (h1 : (step c s ⟨g, k1⟩).isSome = true) (h2 : (step c s ⟨g, k2⟩).isSome = true) : k2 = k1 := by
  obtain ⟨s1, hs1⟩ := Option.isSome_iff_exists.mp h1
  obtain ⟨s2, hs2⟩ := Option.isSome_iff_exists.mp h2
  have hpc := spin_of_isSpin hsp
  rw [(step_sound c s s1 _ hs1).kind_of_spin hpc, (step_sound c s s2 _ hs2).kind_of_spin hpc]

structure InfRun (c : Cfg) where
  σ : Nat → State
  α : Nat → Act
  start : Reachable c (σ 0)
  next : ∀ i, step c (σ i) (α i) = some (σ (i + 1))

/-- weak fairness: an action (fork, kind) that is enabled from some point on forever is
    eventually taken -/
def WeaklyFair (c : Cfg) (r : InfRun c) : Prop :=
  ∀ (a : Act) (M : Nat), (∀ i, M ≤ i → (step c (r.σ i) a).isSome = true) → ∃ i, M ≤ i ∧ r.α i = a

theorem InfRun.reach {c : Cfg} (r : InfRun c) : ∀ i, Reachable c (r.σ i)
  | 0 => r.start
  | i + 1 => Core.Reach.tail (r.reach i) (r.next i)

theorem InfRun.mu_step {c : Cfg} (r : InfRun c) (i : Nat) :
    mu c (r.σ (i + 1)) + (if isSpin c (r.σ i) (r.α i) = true then 0 else 1) ≤ mu c (r.σ i) :=
  Tee.mu_step (inv_reachable (r.reach i)) (step_sound c _ _ _ (r.next i))

theorem InfRun.mu_mono {c : Cfg} (r : InfRun c) (i : Nat) : ∀ d, mu c (r.σ (i + d)) ≤ mu c (r.σ i)
  | 0 => Nat.le_refl _
  | d + 1 => Nat.le_trans (Nat.le_trans (Nat.le_add_right _ _) (r.mu_step (i + d))) (r.mu_mono i d)

/-- the measure bounds the number of steps that are not spin steps -/
theorem eventually_spin {c : Cfg} (r : InfRun c) : ∃ N, ∀ i, N ≤ i → isSpin c (r.σ i) (r.α i) = true := by
  have key : ∀ m i0, mu c (r.σ i0) < m → ∃ N, ∀ i, N ≤ i → isSpin c (r.σ i) (r.α i) = true := by
    intro m
    induction m with
    | zero => exact fun _ h => absurd h (Nat.not_lt_zero _)
    | succ m ih =>
      intro i0 h
      by_cases hall : ∀ i, i0 ≤ i → isSpin c (r.σ i) (r.α i) = true
      · exact ⟨i0, hall⟩
      · obtain ⟨i, hi⟩ := Classical.not_forall.mp hall
        obtain ⟨hi, hsp⟩ := Classical.not_imp.mp hi
        obtain ⟨d, rfl⟩ := Nat.exists_eq_add_of_le hi
        have h1 : mu c (r.σ (i0 + d + 1)) + 1 ≤ mu c (r.σ (i0 + d)) := by
          have := r.mu_step (i0 + d)
          rw [Bool.eq_false_iff.mpr hsp] at this
          exact this
        have := r.mu_mono i0 d
        exact ih (i0 + d + 1) (by omega)
  exact key _ 0 (Nat.lt_succ_self _)

/-- From a point on where only spin steps happen, a fork that does not move while nothing but the
    spinners' positions has changed never moves, and nothing else ever changes. -/
theorem InfRun.persist {c : Cfg} (r : InfRun c) {N M g : Nat} (hN : ∀ i, N ≤ i → isSpin c (r.σ i) (r.α i) = true)
    (hM : N ≤ M)
    (hstay : ∀ d, Same (r.σ M) (r.σ (M + d)) → (r.σ (M + d)).forks g = (r.σ M).forks g → (r.α (M + d)).f ≠ g) :
    ∀ d, Same (r.σ M) (r.σ (M + d)) ∧ (r.σ (M + d)).forks g = (r.σ M).forks g := by
  intro d
  induction d with
  | zero => exact ⟨Same.refl _, rfl⟩
  | succ d ih =>
    obtain ⟨hs, hfk⟩ := ih
    have hspin := hN (M + d) (by omega)
    have hstep := r.next (M + d)
    refine ⟨hs.spin_step hspin hstep, ?_⟩
    show (r.σ (M + d + 1)).forks g = _
    rw [(spin_shape hspin hstep).1, setFork_ne _ _ (Ne.symm (hstay d hs hfk))]
    exact hfk

theorem fair_terminates (c : Cfg) (hn : 0 < c.n) (hbs : 2 ≤ c.bs) (r : InfRun c) : ¬ WeaklyFair c r := by
  intro hfair
  obtain ⟨N, hN⟩ := eventually_spin r
  -- a spinning fork that moves takes the one action it has
  have moved : ∀ i g k, N ≤ i → (step c (r.σ i) ⟨g, k⟩).isSome = true → (r.α i).f = g → r.α i = ⟨g, k⟩ := by
    intro i g k hi hen e
    have hα : r.α i = ⟨g, (r.α i).k⟩ := by rw [← e]
    have hspin := hN i hi
    have hstep := r.next i
    rw [hα] at hspin hstep ⊢
    rw [spin_only hspin (by rw [hstep]; rfl) hen]
  -- (A) from N on, every enabled action is a spin action
  have lemA : ∀ M, N ≤ M → ∀ g k, (step c (r.σ M) ⟨g, k⟩).isSome = true → isSpin c (r.σ M) ⟨g, k⟩ = true := by
    intro M hM g k hen
    cases hns : isSpin c (r.σ M) ⟨g, k⟩
    case true => rfl
    case false =>
    exfalso
    have pers := r.persist hN hM (g := g) fun d hs hfk e => by
      have hspin := hN (M + d) (by omega)
      rw [moved (M + d) g k (by omega) (enabled_same hs hfk hen) e,
        isSpin_same c k hs hfk, hns] at hspin
      cases hspin
    obtain ⟨i, hi, hα⟩ := hfair ⟨g, k⟩ M (by
      intro i hi
      obtain ⟨d, rfl⟩ := Nat.exists_eq_add_of_le hi
      exact enabled_same (pers d).1 (pers d).2 hen)
    obtain ⟨d, rfl⟩ := Nat.exists_eq_add_of_le hi
    have hspin := hN (M + d) (by omega)
    rw [hα, isSpin_same c k (pers d).1 (pers d).2, hns] at hspin
    cases hspin
  -- (B) the state at N is not final, so it advances
  obtain ⟨hi, h2⟩ := inv12_reachable hn (r.reach N)
  have hnf : ¬ Final c (r.σ N) := by
    intro hfin
    have hstep := r.next N
    have := (spin_shape (hN N (Nat.le_refl _)) hstep).2.1
    rw [hfin _ (step_sound c _ _ _ hstep).lt] at this
    cases this
  rcases moves hi h2 hbs hnf with @⟨⟨g, k⟩, s1, hs1, hns⟩ | @⟨g, k, s1, k', s2, hs1, hsp, hs2, hns2⟩
  · have hs1 := step_complete hs1
    have := lemA N (Nat.le_refl _) g k (by rw [hs1]; rfl)
    rw [hns] at this
    cases this
  · -- a spin action of g is enabled at N, after which g has a productive action:
    -- once g moves, that productive action is enabled, against (A)
    have hs1 := step_complete hs1
    have hs2 := step_complete hs2
    have hs1shape := (spin_shape hsp hs1).1
    have stays : ∀ d, Same (r.σ N) (r.σ (N + d)) → (r.σ (N + d)).forks g = (r.σ N).forks g →
        (r.α (N + d)).f ≠ g := by
      intro d hs hfk e
      have hspin := hN (N + d) (by omega)
      have hstep := r.next (N + d)
      rw [moved (N + d) g k (by omega) (enabled_same hs hfk (by rw [hs1]; rfl)) e] at hspin hstep
      have hshape := (spin_shape hspin hstep).1
      have hfk1 : (r.σ (N + d + 1)).forks g = s1.forks g := by
        rw [hshape, hs1shape]
        show (setFork _ g _).forks g = (setFork _ g _).forks g
        rw [setFork_same, setFork_same, hfk]
      have hsame1 : Same s1 (r.σ (N + d + 1)) := by
        rw [hshape, hs1shape]
        refine ⟨hs.pulled, hs.raised, hs.endPulls, hs.boxes, hs.linked, hs.put, hs.popped, hs.cnt, hs.lock,
          fun h => ?_⟩
        show FSame ((setFork _ g _).forks h) ((setFork _ g _).forks h)
        by_cases hh : h = g
        · rw [hh, setFork_same, setFork_same, hfk]
          exact .inl rfl
        · rw [setFork_ne _ _ hh, setFork_ne _ _ hh]
          exact hs.forks h
      have := lemA (N + d + 1) (by omega) g k' (enabled_same hsame1 hfk1 (by rw [hs2]; rfl))
      rw [isSpin_same c k' hsame1 hfk1, hns2] at this
      cases this
    have pers := r.persist hN (Nat.le_refl N) stays
    obtain ⟨i, hi', hα⟩ := hfair ⟨g, k⟩ N (by
      intro i hi'
      obtain ⟨d, rfl⟩ := Nat.exists_eq_add_of_le hi'
      exact enabled_same (pers d).1 (pers d).2 (by rw [hs1]; rfl))
    obtain ⟨d, rfl⟩ := Nat.exists_eq_add_of_le hi'
    exact stays d (pers d).1 (pers d).2 (by rw [hα])

end Tee
