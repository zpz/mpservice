import MpsVerif.Model.EagerBatcher
import MpsVerif.Core.Sys
/-! `Step` is `Eager.step` as a relation, one constructor per enabled case: invariant proofs do
    `cases` on it, the property theorems are stated over `step`/`run`. -/
namespace Eager

inductive Step (c : Cfg) : State → Act → State → Prop where
  | arrive {s} (x : Item) :
      Step c s (.arrive x) { s with q := s.q ++ [x], arrived := s.arrived ++ [(x, s.clock)] }
  | tick {s} (d : Nat) : 0 < d →
      (c.strict = false ∨ (s.pc = .idle ∧ s.q = []) ∨ (s.pc = .coll ∧ s.q = [] ∧ s.clock + d ≤ s.t0 + c.wait)
        ∨ s.pc = .held ∨ s.pc = .done) →
      Step c s (.tick d) { s with clock := s.clock + d }
  | takeIdleEnd {s z rest} : s.q = z :: rest → s.pc = .idle → c.isEnd z = true →
      Step c s .take { s with q := rest, taken := s.taken ++ [z], takenAt := s.takenAt ++ [(z, s.clock)], pc := .closing, fin := true }
  | takeIdleItem {s z rest} : s.q = z :: rest → s.pc = .idle → c.isEnd z = false →
      Step c s .take { s with q := rest, taken := s.taken ++ [z], takenAt := s.takenAt ++ [(z, s.clock)], cur := [z], t0 := s.clock,
                              pc := if 1 < c.bs then .coll else .flush }
  | takeCollEnd {s z rest} : s.q = z :: rest → s.pc = .coll → c.isEnd z = true →
      Step c s .take { s with q := rest, taken := s.taken ++ [z], takenAt := s.takenAt ++ [(z, s.clock)], pc := .flush, fin := true }
  | takeCollItem {s z rest} : s.q = z :: rest → s.pc = .coll → c.isEnd z = false →
      Step c s .take { s with q := rest, taken := s.taken ++ [z], takenAt := s.takenAt ++ [(z, s.clock)], cur := s.cur ++ [z],
                              pc := if s.cur.length + 1 < c.bs then .coll else .flush }
  | timeout {s} : s.pc = .coll → s.q = [] → s.t0 + c.wait ≤ s.clock →
      Step c s .timeout { s with pc := .flush }
  | emit {s} : s.pc = .flush →
      Step c s .emit { s with pc := .held, out := s.out ++ [s.cur], outAt := s.outAt ++ [s.clock], cur := [] }
  | resume {s} : s.pc = .held →
      Step c s .resume { s with pc := if s.fin = true then .closing else .idle }
  | stop {s} : s.pc = .closing → Step c s .stop { s with pc := .done }

theorem step_sound (c : Cfg) (s s' : State) (a : Act) (h : step c s a = some s') : Step c s a s' := by
  cases a with
  | arrive x =>
    cases h
    exact .arrive x
  | tick d => exact Core.of_ite_some h fun hg => .tick d hg.1 hg.2
  | take =>
    dsimp only [step] at h
    split at h
    · cases h
    · rename_i z rest hq
      -- `split` on the nested `if`s is slow here (the branches are whole states); rewrite them instead
      by_cases hpc : s.pc = .idle
      · rw [if_pos hpc] at h
        cases he : c.isEnd z
        · rw [he, if_neg Bool.false_ne_true] at h
          cases h
          exact .takeIdleItem hq hpc he
        · rw [he, if_pos rfl] at h
          cases h
          exact .takeIdleEnd hq hpc he
      · rw [if_neg hpc] at h
        obtain ⟨hpc, h⟩ := Option.ite_none_right_eq_some.mp h
        cases he : c.isEnd z
        · rw [he, if_neg Bool.false_ne_true] at h
          cases h
          exact .takeCollItem hq hpc he
        · rw [he, if_pos rfl] at h
          cases h
          exact .takeCollEnd hq hpc he
  | timeout => exact Core.of_ite_some h fun hg => .timeout hg.1 hg.2.1 hg.2.2
  | emit => exact Core.of_ite_some h .emit
  | resume => exact Core.of_ite_some h .resume
  | stop => exact Core.of_ite_some h .stop

section enabled
variable {c : Cfg} {s : State}

theorem tick_isSome {d : Nat} : (step c s (.tick d)).isSome ↔
    0 < d ∧ (c.strict = false ∨ (s.pc = .idle ∧ s.q = []) ∨
      (s.pc = .coll ∧ s.q = [] ∧ s.clock + d ≤ s.t0 + c.wait) ∨ s.pc = .held ∨ s.pc = .done) :=
  Option.isSome_ite

theorem take_isSome : (step c s .take).isSome ↔ s.q ≠ [] ∧ (s.pc = .idle ∨ s.pc = .coll) := by
  have both {p : Prop} [Decidable p] (x y : State) : (if p then some x else some y).isSome := by
    split <;> rfl
  simp only [step]
  split
  · rename_i hq
    exact iff_of_false Bool.false_ne_true (fun h => h.1 hq)
  · rename_i z rest hq
    have hne : s.q ≠ [] := hq ▸ List.cons_ne_nil z rest
    by_cases h1 : s.pc = .idle
    · rw [if_pos h1]
      exact iff_of_true (both _ _) ⟨hne, .inl h1⟩
    · rw [if_neg h1]
      by_cases h2 : s.pc = .coll
      · rw [if_pos h2]
        exact iff_of_true (both _ _) ⟨hne, .inr h2⟩
      · rw [if_neg h2]
        exact iff_of_false Bool.false_ne_true (fun h => h.2.elim h1 h2)

theorem timeout_isSome :
    (step c s .timeout).isSome ↔ s.pc = .coll ∧ s.q = [] ∧ s.t0 + c.wait ≤ s.clock :=
  Option.isSome_ite

theorem emit_isSome : (step c s .emit).isSome ↔ s.pc = .flush := Option.isSome_ite

theorem resume_isSome : (step c s .resume).isSome ↔ s.pc = .held := Option.isSome_ite

theorem stop_isSome : (step c s .stop).isSome ↔ s.pc = .closing := Option.isSome_ite

end enabled

def Reachable (c : Cfg) (s : State) : Prop := Core.Reach (step c) init s

theorem reachable_inv (c : Cfg) {Inv : State → Prop} (h0 : Inv init)
    (hstep : ∀ s a s', Inv s → Step c s a s' → Inv s') {s : State} (hr : Reachable c s) : Inv s :=
  Core.invariant_reach (fun s a s' hi hs => hstep s a s' hi (step_sound c s s' a hs)) h0 hr

theorem stamps_snoc {α : Type} {l : List (α × Nat)} {t : Nat} (x : α)
    (hle : ∀ p ∈ l, p.2 ≤ t) (hs : (l.map (·.2)).Pairwise (· ≤ ·)) :
    (∀ p ∈ l ++ [(x, t)], p.2 ≤ t) ∧ ((l ++ [(x, t)]).map (·.2)).Pairwise (· ≤ ·) := by
  constructor
  · intro p hp
    rcases List.mem_append.mp hp with hp | hp
    · exact hle p hp
    · rw [List.mem_singleton.mp hp]
      exact Nat.le_refl t
  · rw [List.map_append, List.pairwise_append]
    refine ⟨hs, List.pairwise_singleton _ _, ?_⟩
    intro a ha b hb
    rw [List.mem_singleton.mp hb]
    obtain ⟨p, hp, rfl⟩ := List.mem_map.mp ha
    exact hle p hp

theorem arrivedBefore_snoc {s s' : State} {x : Item} {u t : Nat}
    (h : s'.arrived = s.arrived ++ [(x, u)]) (ht : t ≤ u) : arrivedBefore s' t = arrivedBefore s t := by
  unfold arrivedBefore
  rw [h, List.filter_append, List.filter_cons_of_neg (by simpa using ht), List.filter_nil, List.append_nil]

structure Inv (c : Cfg) (s : State) : Prop where
  /-- everything that arrived was taken or is still queued, in order -/
  arr : s.arrived.map (·.1) = s.taken ++ s.q
  /-- everything taken is in an emitted batch, in the current batch, or is the end marker -/
  tak : s.taken = s.out.flatten ++ s.cur ++ (if s.fin = true then [c.endm] else [])
  noEnd : ∀ x ∈ s.out.flatten ++ s.cur, c.isEnd x = false
  sizes : ∀ b ∈ s.out, 1 ≤ b.length ∧ b.length ≤ c.bs
  stamps : ∀ p ∈ s.arrived, p.2 ≤ s.clock
  sorted : (s.arrived.map (·.2)).Pairwise (· ≤ ·)
  idle : s.pc = .idle → s.cur = [] ∧ s.fin = false
  coll : s.pc = .coll → 1 ≤ s.cur.length ∧ s.cur.length < c.bs ∧ s.fin = false ∧
            s.t0 ≤ s.clock ∧ (c.strict = true → s.clock ≤ s.t0 + c.wait)
  flush : s.pc = .flush → 1 ≤ s.cur.length ∧ s.cur.length ≤ c.bs ∧
            (s.fin = false → s.cur.length < c.bs →
              s.t0 + c.wait ≤ s.clock ∧ (c.strict = true → s.clock = s.t0 + c.wait) ∧
              arrivedBefore s (s.t0 + c.wait) ≤ s.taken.length)
  held : s.pc = .held → s.cur = []
  closing : s.pc = .closing → s.cur = [] ∧ s.fin = true
  done : s.pc = .done → s.cur = [] ∧ s.fin = true
  /-- zero processing time: items the batcher holds have been held for at most `wait` -/
  told : c.strict = true → s.cur ≠ [] → s.clock ≤ s.t0 + c.wait

/-- `Inv` without its six `pc` clauses -/
structure Hist (c : Cfg) (s : State) : Prop where
  arr : s.arrived.map (·.1) = s.taken ++ s.q
  tak : s.taken = s.out.flatten ++ s.cur ++ (if s.fin = true then [c.endm] else [])
  noEnd : ∀ x ∈ s.out.flatten ++ s.cur, c.isEnd x = false
  sizes : ∀ b ∈ s.out, 1 ≤ b.length ∧ b.length ≤ c.bs
  stamps : ∀ p ∈ s.arrived, p.2 ≤ s.clock
  sorted : (s.arrived.map (·.2)).Pairwise (· ≤ ·)
  told : c.strict = true → s.cur ≠ [] → s.clock ≤ s.t0 + c.wait

/-- what `Inv` says at `pc = p`; its other five `pc` clauses hold vacuously, so a step that
    moves `pc` to a known value has this one clause to prove -/
def AtPc (c : Cfg) (s : State) : Pc → Prop
  | .idle => s.cur = [] ∧ s.fin = false
  | .coll => 1 ≤ s.cur.length ∧ s.cur.length < c.bs ∧ s.fin = false ∧
      s.t0 ≤ s.clock ∧ (c.strict = true → s.clock ≤ s.t0 + c.wait)
  | .flush => 1 ≤ s.cur.length ∧ s.cur.length ≤ c.bs ∧
      (s.fin = false → s.cur.length < c.bs →
        s.t0 + c.wait ≤ s.clock ∧ (c.strict = true → s.clock = s.t0 + c.wait) ∧
        arrivedBefore s (s.t0 + c.wait) ≤ s.taken.length)
  | .held => s.cur = []
  | .closing | .done => s.cur = [] ∧ s.fin = true

theorem Inv.of_atPc {c : Cfg} {s : State} (hh : Hist c s) (hp : AtPc c s s.pc) : Inv c s :=
  have at_ (p : Pc) (h : s.pc = p) : AtPc c s p := h ▸ hp
  { hh with
    idle := at_ .idle
    coll := at_ .coll
    flush := at_ .flush
    held := at_ .held
    closing := at_ .closing
    done := at_ .done }

theorem inv_init (c : Cfg) : Inv c init :=
  .of_atPc ⟨rfl, rfl, nofun, nofun, nofun, List.Pairwise.nil, fun _ h => absurd rfl h⟩ ⟨rfl, rfl⟩

theorem isEnd_eq {c : Cfg} {z : Item} (h : c.isEnd z = true) : z = c.endm := by
  simpa [Cfg.isEnd] using h

theorem tak_of_not_fin {c : Cfg} {s : State} (hi : Inv c s) (hf : s.fin = false) :
    s.taken = s.out.flatten ++ s.cur := by
  rw [hi.tak, hf]
  exact List.append_nil _

theorem arr_take {c : Cfg} {s : State} {z : Item} {rest : List Item} (hi : Inv c s)
    (hq : s.q = z :: rest) : s.arrived.map (·.1) = (s.taken ++ [z]) ++ rest := by
  rw [hi.arr, hq, List.append_assoc]
  rfl

theorem inv_step (c : Cfg) (hbs : 1 ≤ c.bs) (s : State) (a : Act) (s' : State)
    (hi : Inv c s) (hs : Step c s a s') : Inv c s' := by
  cases hs with
  | arrive x =>
    have hst := stamps_snoc x hi.stamps hi.sorted
    exact { hi with
      arr := by
        rw [List.map_append, hi.arr, List.append_assoc]
        rfl
      stamps := hst.1
      sorted := hst.2
      flush := fun hpc =>
        have ⟨h1, h2, h3⟩ := hi.flush hpc
        ⟨h1, h2, fun hf hl =>
          have ⟨h4, h5, h6⟩ := h3 hf hl
          ⟨h4, h5, Nat.le_trans (Nat.le_of_eq (arrivedBefore_snoc rfl h4)) h6⟩⟩ }
  | tick d hd hg =>
    -- under zero processing time, time passes with a batch open only in the timed `get`
    have told : c.strict = true → s.cur ≠ [] → s.clock + d ≤ s.t0 + c.wait := by
      intro hstrict hcur
      rcases hg with hg | hg | hg | hg | hg
      · rw [hstrict] at hg
        cases hg
      · exact absurd (hi.idle hg.1).1 hcur
      · exact hg.2.2
      · exact absurd (hi.held hg) hcur
      · exact absurd (hi.done hg).1 hcur
    exact { hi with
      stamps := fun p hp => Nat.le_trans (hi.stamps p hp) (Nat.le_add_right _ _)
      coll := fun hpc =>
        have ⟨h1, h2, h3, h4, _⟩ := hi.coll hpc
        ⟨h1, h2, h3, Nat.le_trans h4 (Nat.le_add_right _ _),
          fun hstrict => told hstrict (List.ne_nil_of_length_pos h1)⟩
      flush := fun hpc =>
        have ⟨h1, h2, h3⟩ := hi.flush hpc
        ⟨h1, h2, fun hf hl =>
          have ⟨h4, _, h6⟩ := h3 hf hl
          ⟨Nat.le_trans h4 (Nat.le_add_right _ _),
            fun hstrict =>
              absurd (told hstrict (List.ne_nil_of_length_pos h1)) (by omega),
            h6⟩⟩
      told := told }
  | takeIdleEnd hq hpc he =>
    obtain ⟨hc, hf⟩ := hi.idle hpc
    exact .of_atPc { hi with
      arr := arr_take hi hq
      tak := by simp [hi.tak, hf, isEnd_eq he] } ⟨hc, rfl⟩
  | takeIdleItem hq hpc he =>
    rename_i z rest
    obtain ⟨hc, hf⟩ := hi.idle hpc
    have tak : s.taken ++ [z] = s.out.flatten ++ [z] ++ (if s.fin = true then [c.endm] else []) := by
      simp [hi.tak, hf, hc]
    have noEnd : ∀ x ∈ s.out.flatten ++ [z], c.isEnd x = false := by
      intro x hx
      rcases List.mem_append.mp hx with hx | hx
      · exact hi.noEnd x (List.mem_append_left _ hx)
      · rw [List.mem_singleton.mp hx]
        exact he
    refine .of_atPc { hi with
      arr := arr_take hi hq
      tak := tak
      noEnd := noEnd
      told := fun _ _ => Nat.le_add_right _ _ } ?_
    show AtPc c _ (if 1 < c.bs then .coll else .flush)
    split
    · rename_i hb
      exact ⟨Nat.le_refl 1, hb, hf, Nat.le_refl _, fun _ => Nat.le_add_right _ _⟩
    · rename_i hb
      exact ⟨Nat.le_refl 1, hbs, fun _ hl => absurd hl hb⟩
  | takeCollEnd hq hpc he =>
    obtain ⟨hc1, hc2, hf, _, _⟩ := hi.coll hpc
    exact .of_atPc { hi with
      arr := arr_take hi hq
      tak := by simp [hi.tak, hf, isEnd_eq he] } ⟨hc1, Nat.le_of_lt hc2, nofun⟩
  | takeCollItem hq hpc he =>
    rename_i z rest
    obtain ⟨hc1, hc2, hf, hc3, hc4⟩ := hi.coll hpc
    have tak : s.taken ++ [z] = s.out.flatten ++ (s.cur ++ [z]) ++ (if s.fin = true then [c.endm] else []) := by
      simp [hi.tak, hf]
    have noEnd : ∀ x ∈ s.out.flatten ++ (s.cur ++ [z]), c.isEnd x = false := by
      intro x hx
      rw [← List.append_assoc] at hx
      rcases List.mem_append.mp hx with hx | hx
      · exact hi.noEnd x hx
      · rw [List.mem_singleton.mp hx]
        exact he
    have len : (s.cur ++ [z]).length = s.cur.length + 1 := List.length_append
    have h1 : 1 ≤ (s.cur ++ [z]).length := len ▸ Nat.le_add_left 1 _
    refine .of_atPc { hi with
      arr := arr_take hi hq
      tak := tak
      noEnd := noEnd
      told := fun hstrict _ => hc4 hstrict } ?_
    show AtPc c _ (if s.cur.length + 1 < c.bs then .coll else .flush)
    split
    · rename_i hb
      have h2 : (s.cur ++ [z]).length < c.bs := len ▸ hb
      exact ⟨h1, h2, hf, hc3, hc4⟩
    · rename_i hb
      have h2 : (s.cur ++ [z]).length ≤ c.bs := len ▸ hc2
      have h3 : ¬ (s.cur ++ [z]).length < c.bs := len ▸ hb
      exact ⟨h1, h2, fun _ hl => absurd hl h3⟩
  | timeout hpc hq ht =>
    obtain ⟨hc1, hc2, _, _, hc4⟩ := hi.coll hpc
    -- the queue is empty: everything that has arrived has been taken
    have hall : arrivedBefore s (s.t0 + c.wait) ≤ s.taken.length := by
      have h1 : s.arrived.length = s.taken.length := by
        have := congrArg List.length hi.arr
        rwa [List.length_map, hq, List.append_nil] at this
      exact h1 ▸ List.length_filter_le _ _
    exact .of_atPc { hi with } ⟨hc1, Nat.le_of_lt hc2, fun _ _ =>
      ⟨ht, fun hstrict => Nat.le_antisymm (hc4 hstrict) ht, hall⟩⟩
  | emit hpc =>
    obtain ⟨h1, h2, _⟩ := hi.flush hpc
    have hflat : (s.out ++ [s.cur]).flatten ++ [] = s.out.flatten ++ s.cur := by
      rw [List.flatten_append, List.flatten_singleton, List.append_nil]
    exact .of_atPc { hi with
      tak := by
        rw [hflat]
        exact hi.tak
      noEnd := by
        rw [hflat]
        exact hi.noEnd
      sizes := by
        intro b hb
        rcases List.mem_append.mp hb with hb | hb
        · exact hi.sizes b hb
        · rw [List.mem_singleton.mp hb]
          exact ⟨h1, h2⟩
      told := fun _ h => absurd rfl h } rfl
  | resume hpc =>
    refine .of_atPc { hi with } ?_
    show AtPc c _ (if s.fin = true then .closing else .idle)
    split
    · rename_i hf
      exact ⟨hi.held hpc, hf⟩
    · rename_i hf
      exact ⟨hi.held hpc, Bool.eq_false_iff.mpr hf⟩
  | stop hpc => exact .of_atPc { hi with } (hi.closing hpc)

theorem all_reachable (c : Cfg) (hbs : 1 ≤ c.bs) {s : State} (hr : Reachable c s) : Inv c s :=
  reachable_inv c (inv_init c) (fun s a s' hi hs => inv_step c hbs s a s' hi hs) hr

theorem step_arrivedBefore {c : Cfg} {s s' : State} {a : Act} (h : Step c s a s') :
    s.clock ≤ s'.clock ∧ ∀ t ≤ s.clock, arrivedBefore s' t = arrivedBefore s t := by
  cases h with
  | arrive x => exact ⟨Nat.le_refl _, fun _ ht => arrivedBefore_snoc rfl ht⟩
  | tick d => exact ⟨Nat.le_add_right _ _, fun _ _ => rfl⟩
  | _ => exact ⟨Nat.le_refl _, fun _ _ => rfl⟩

theorem arrivedBefore_stable (c : Cfg) (as : List Act) (s s2 : State) (t : Nat)
    (h : Core.run (step c) s as = some s2) (ht : t ≤ s.clock) :
    arrivedBefore s2 t = arrivedBefore s t :=
  (Core.invariant_run (Inv := fun s1 => t ≤ s1.clock ∧ arrivedBefore s1 t = arrivedBefore s t)
    (fun s1 a s1' ⟨h1, h2⟩ hst =>
      have ⟨h3, h4⟩ := step_arrivedBefore (step_sound c s1 s1' a hst)
      ⟨Nat.le_trans h1 h3, (h4 t h1).trans h2⟩)
    as s s2 ⟨ht, rfl⟩ h).2

theorem takenAt_reachable (c : Cfg) {s : State} (hr : Reachable c s) :
    s.takenAt.map (·.1) = s.taken ∧ (∀ p ∈ s.takenAt, p.2 ≤ s.clock) ∧
    (s.takenAt.map (·.2)).Pairwise (· ≤ ·) := by
  refine reachable_inv c (Inv := fun s => s.takenAt.map (·.1) = s.taken ∧ (∀ p ∈ s.takenAt, p.2 ≤ s.clock) ∧
    (s.takenAt.map (·.2)).Pairwise (· ≤ ·)) ⟨rfl, nofun, List.Pairwise.nil⟩ ?_ hr
  intro s a s' ⟨h1, h2, h3⟩ hs
  have take (z : Item) : (s.takenAt ++ [(z, s.clock)]).map (·.1) = s.taken ++ [z] ∧
      (∀ p ∈ s.takenAt ++ [(z, s.clock)], p.2 ≤ s.clock) ∧
      ((s.takenAt ++ [(z, s.clock)]).map (·.2)).Pairwise (· ≤ ·) :=
    ⟨(List.map_append ..).trans (congrArg (· ++ [z]) h1), stamps_snoc z h2 h3⟩
  cases hs with
  | tick d => exact ⟨h1, fun p hp => Nat.le_trans (h2 p hp) (Nat.le_add_right _ _), h3⟩
  | takeIdleEnd | takeIdleItem | takeCollEnd | takeCollItem => exact take _
  | _ => exact ⟨h1, h2, h3⟩

/-! The batcher never spins: a potential bounds the number of its steps by the number of arrivals.
    No invariant is needed, the bookkeeping follows the `pc` transitions alone. -/

/-- steps of the batcher and the consumer (everything that is not an arrival or passing time) -/
def isWork : Act → Bool
  | .arrive _ => false
  | .tick _ => false
  | _ => true

def work (as : List Act) : Nat := (as.filter isWork).length

def isArrive : Act → Bool
  | .arrive _ => true
  | _ => false

def arrivals (as : List Act) : Nat := (as.filter isArrive).length

theorem length_filter_cons {α : Type} (p : α → Bool) (a : α) (l : List α) :
    ((a :: l).filter p).length = (if p a then 1 else 0) + (l.filter p).length := by
  rw [List.filter_cons]
  split
  · rw [List.length_cons, Nat.add_comm]
  · rw [Nat.zero_add]

/-- steps the present `pc` still owes (expiry, yield, resume), and the final `stop` once the end
    marker has been taken -/
def owed (f : Bool) : Pc → Nat
  | .idle => f.toNat
  | .coll => 3 + f.toNat
  | .flush => 2 + f.toNat
  | .held => 1 + f.toNat
  | .closing => 1
  | .done => 0

/-- steps still owed: 4 per queued entry (take, expiry, yield, resume) plus what `pc` owes -/
def pot (s : State) : Nat := 4 * s.q.length + owed s.fin s.pc

/-- a take removes a queued entry: it may raise what `pc` owes by up to three -/
theorem pot_take {r n k k' : Nat} (hn : n = r + 1) (h : k' + 1 ≤ k + 4) : 4 * r + k' + 1 ≤ 4 * n + k := by
  omega

theorem step_pot {c : Cfg} {s s' : State} {a : Act} (h : Step c s a s') :
    pot s' + (if isWork a then 1 else 0) ≤ pot s + 4 * (if isArrive a then 1 else 0) := by
  cases h with
  | arrive x =>
    show 4 * (s.q ++ [x]).length + owed s.fin s.pc ≤ 4 * s.q.length + owed s.fin s.pc + 4
    rw [List.length_append, List.length_singleton]
    omega
  | tick d hd hg => exact Nat.le_refl _
  | takeIdleEnd hq hpc he | takeCollEnd hq hpc he =>
    refine pot_take (congrArg List.length hq) ?_
    -- what `pc` owes before and after is a closed table
    rw [hpc]
    dsimp only
    cases s.fin <;> decide
  | takeIdleItem hq hpc he | takeCollItem hq hpc he =>
    refine pot_take (congrArg List.length hq) ?_
    rw [hpc]
    dsimp only
    split <;> cases s.fin <;> decide
  | timeout hpc | emit hpc | stop hpc | resume hpc =>
    refine Nat.add_lt_add_left (?_ : owed _ _ < owed _ _) _
    rw [hpc]
    dsimp only
    cases s.fin <;> decide

theorem run_pot (c : Cfg) (as : List Act) (s s' : State) (h : Core.run (step c) s as = some s') :
    work as + pot s' ≤ 4 * arrivals as + pot s := by
  induction as generalizing s with
  | nil =>
    cases h
    exact Nat.le_refl _
  | cons a as ih =>
    obtain ⟨s1, hst, h⟩ := Option.bind_eq_some_iff.mp h
    have h1 := step_pot (step_sound c s s1 a hst)
    have h2 := ih s1 h
    unfold work arrivals at h2 ⊢
    rw [length_filter_cons, length_filter_cons]
    omega

/-- the one step of the batcher or the consumer that `pc` (and, while collecting, the queue) allows -/
def next (s : State) : Act :=
  match s.pc with
  | .idle => .take
  | .coll => if s.q = [] then .timeout else .take
  | .flush => .emit
  | .held => .resume
  | .closing | .done => .stop

theorem act_eq_next {c : Cfg} {s s' : State} {a : Act} (h : Step c s a s') (ha : isWork a = true) :
    a = next s := by
  unfold next
  cases h with
  | arrive x => cases ha
  | tick d => cases ha
  | takeIdleEnd hq hpc | takeIdleItem hq hpc => rw [hpc]
  | takeCollEnd hq hpc | takeCollItem hq hpc =>
    rw [hpc, hq]
    rfl
  | timeout hpc hq =>
    rw [hpc, hq]
    rfl
  | emit hpc | resume hpc | stop hpc => rw [hpc]

theorem isWork_of_mem : ∀ a ∈ [Act.take, .timeout, .emit, .resume, .stop], isWork a = true := by
  decide

/-- the guard of a tick says that the one step `pc` allows is disabled, or is the consumer's -/
theorem blocked_of_tick {c : Cfg} {s : State} {d : Nat} (hstrict : c.strict = true)
    (ht : (step c s (.tick d)).isSome) : ∀ a ∈ batcherActs, ¬ (step c s a).isSome := by
  intro a ha hen
  obtain ⟨hd, hg⟩ := tick_isSome.mp ht
  obtain ⟨s1, hs1⟩ := Option.isSome_iff_exists.mp hen
  have hnext : a = next s :=
    act_eq_next (step_sound c s s1 a hs1) ((by decide : ∀ a ∈ batcherActs, isWork a = true) a ha)
  unfold next at hnext
  rcases hg with hg | ⟨hp, hq⟩ | ⟨hp, hq, hle⟩ | hp | hp
  · rw [hstrict] at hg
    cases hg
  · rw [hp] at hnext
    obtain rfl : a = .take := hnext
    exact (take_isSome.mp hen).1 hq
  · rw [hp, if_pos hq] at hnext
    obtain rfl : a = .timeout := hnext
    have := (timeout_isSome.mp hen).2.2
    omega
  · rw [hp] at hnext
    obtain rfl : a = .resume := hnext
    exact absurd ha (by decide)
  · rw [hp] at hnext
    obtain rfl : a = .stop := hnext
    have := stop_isSome.mp hen
    rw [hp] at this
    cases this

end Eager
