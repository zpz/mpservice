import MpsVerif.Proofs.PipelineSem
/-!
# The generator protocol (`next`) computes the generators' list meaning

`Stage.turn` says what the outermost stage does in one round of its loop, as one of three shapes
(`Turn`); `Run` is the resulting big-step relation, which `next` computes (`next_run`).  Facts about
single stages are proved by cases on `turn`, facts about whole runs by induction on `Run`.
`denote ss src` is what the rest of the run will deliver, read off the state: for every stage its
pending values, then its generator body folded over what is still to come from below.
-/
namespace Pipeline

/-- what a stage does in one round of its loop: hand `r` downstream and become `g'`; go round again
    as `g'`; or ask the stages below and go round again as `k` of their answer -/
inductive Turn where
  | answer (r : Resp) (g' : Stage)
  | step (g' : Stage)
  | pull (k : Resp → Stage)

/-- `b`: whether the stage's worker thread runs now -/
def Stage.turn (g : Stage) : Bool → Turn
  | true => .pull fun r => { g.noteRecv r with inq := g.inq ++ [r] }
  | false =>
    match g.pend, g.mode, g.inq with
    | v :: rest, _, _ => .answer (.val v) { g with pend := rest, hand := g.hand + 1 }
    | [], .stop, _ => .answer .done g
    | [], .fail e, _ => .answer (.err e) { g with mode := .stop, hand := g.hand + 1 }
    | [], .run, r :: q => .step (({ g with inq := q }).take r)
    | [], .run, [] => .pull fun r => (g.noteRecv r).take r

theorem next_nil (f : Nat) (w : World) :
    next f [] w = (w.src.next.1, [], { w with src := w.src.next.2 }) := by
  cases f <;> rfl

theorem next_succ (f : Nat) (g : Stage) (up : List Stage) (w : World) :
    next (f + 1) (g :: up) w =
      match g.turn (g.choose w).1 with
      | .answer r g' => (r, g' :: up, (g.choose w).2)
      | .step g' => next f (g' :: up) (g.choose w).2
      | .pull k =>
        let n := next f up (g.choose w).2
        if n.1 = .fuel then (.fuel, g :: n.2.1, n.2.2) else next f (k n.1 :: n.2.1) n.2.2 := by
  rw [next]
  cases (g.choose w).1 with
  | true => rfl
  | false =>
    obtain ⟨op, st, pend, mode, inq, upDone, recv, hand⟩ := g
    cases pend with
    | cons v rest => rfl
    | nil =>
      cases mode with
      | stop | fail e => rfl
      | run => cases inq <;> rfl

/-- `Run ss w r ss' w'`: one `next()` on `ss` in world `w` may answer `r` and leave `ss'`, `w'`.
    An answer `fuel` is a run cut short, at any point. -/
inductive Run : List Stage → World → Resp → List Stage → World → Prop
  | src (w : World) : Run [] w w.src.next.1 [] { w with src := w.src.next.2 }
  | giveUp (ss : List Stage) (w : World) : Run ss w .fuel ss w
  | answer {g : Stage} {w : World} :
      g.turn (g.choose w).1 = .answer r g' → Run (g :: up) w r (g' :: up) (g.choose w).2
  | step {g : Stage} {w : World} :
      g.turn (g.choose w).1 = .step g' → Run (g' :: up) (g.choose w).2 r ss' w' →
      Run (g :: up) w r ss' w'
  | starve {g : Stage} {w : World} :
      g.turn (g.choose w).1 = .pull k → Run up (g.choose w).2 .fuel up' w' →
      Run (g :: up) w .fuel (g :: up') w'
  | pull {g : Stage} {w : World} :
      g.turn (g.choose w).1 = .pull k → Run up (g.choose w).2 r₁ up₁ w₁ → r₁ ≠ .fuel →
      Run (k r₁ :: up₁) w₁ r ss' w' → Run (g :: up) w r ss' w'

variable {g : Stage} {b : Bool} {tn : Turn} {ss ss' : List Stage} {w w' : World} {r : Resp}

theorem next_run : ∀ (f : Nat) (ss : List Stage) (w : World),
    Run ss w (next f ss w).1 (next f ss w).2.1 (next f ss w).2.2
  | _, [], w => by
    rw [next_nil]
    exact .src w
  | 0, g :: up, w => .giveUp _ w
  | f + 1, g :: up, w => by
    rw [next_succ]
    cases ht : g.turn (g.choose w).1 with
    | answer r g' => exact .answer ht
    | step g' => exact .step ht (next_run f _ _)
    | pull k =>
      have h₁ := next_run f up (g.choose w).2
      dsimp only
      split
      next hf =>
        rw [hf] at h₁
        exact .starve ht h₁
      next hf => exact .pull ht h₁ hf (next_run f _ _)

theorem Run.of_next {f : Nat} (h : next f ss w = (r, ss', w')) : Run ss w r ss' w' := by
  have := next_run f ss w
  rwa [h] at this

theorem choose_src (g : Stage) (w : World) : (g.choose w).2.src = w.src := by
  unfold Stage.choose
  split
  · split <;> rfl
  · rfl

theorem choose_orc (g : Stage) (w : World) :
    (g.choose w).2.orc.length + (g.choose w).1.toNat ≤ w.orc.length := by
  unfold Stage.choose
  split
  · split
    next b rest h =>
      rw [h]
      exact Nat.add_le_add_left (Bool.toNat_le b) _
    next => exact Nat.le_refl _
  · exact Nat.le_refl _

theorem choose_orc_le {g : Stage} {w : World} : (g.choose w).2.orc.length ≤ w.orc.length :=
  Nat.le_trans (Nat.le_add_right ..) (choose_orc g w)

theorem take_eq (g : Stage) (r : Resp) :
    ∃ st pend mode, g.take r = { g with st := st, pend := pend, mode := mode } := by
  cases r with
  | val v =>
    simp only [Stage.take]
    rcases feed g.op g.st v with ⟨outs, nx⟩
    cases nx <;> exact ⟨_, _, _, rfl⟩
  | _ => exact ⟨_, _, _, rfl⟩

@[simp] theorem take_op (g : Stage) (r : Resp) : (g.take r).op = g.op := by
  obtain ⟨_, _, _, h⟩ := take_eq g r
  rw [h]

@[simp] theorem take_inq (g : Stage) (r : Resp) : (g.take r).inq = g.inq := by
  obtain ⟨_, _, _, h⟩ := take_eq g r
  rw [h]

@[simp] theorem take_recv (g : Stage) (r : Resp) : (g.take r).recv = g.recv := by
  obtain ⟨_, _, _, h⟩ := take_eq g r
  rw [h]

@[simp] theorem take_hand (g : Stage) (r : Resp) : (g.take r).hand = g.hand := by
  obtain ⟨_, _, _, h⟩ := take_eq g r
  rw [h]

theorem turn_op (ht : g.turn b = tn) :
    match tn with
    | .answer _ g' => g'.op = g.op
    | .step g' => g'.op = g.op
    | .pull k => ∀ r, (k r).op = g.op := by
  subst ht
  cases b with
  | true => exact fun _ => rfl
  | false =>
    obtain ⟨op, st, pend, mode, inq, upDone, recv, hand⟩ := g
    cases pend with
    | cons v rest => rfl
    | nil =>
      cases mode with
      | stop | fail e => rfl
      | run =>
        cases inq with
        | cons r q => exact take_op _ _
        | nil => exact fun r => take_op _ _

theorem run_frame (h : Run ss w r ss' w') :
    ss'.map Stage.op = ss.map Stage.op ∧ w'.orc.length ≤ w.orc.length := by
  induction h with
  | src => exact ⟨rfl, Nat.le_refl _⟩
  | giveUp => exact ⟨rfl, Nat.le_refl _⟩
  | answer ht => exact ⟨congrArg (· :: _) (turn_op ht), choose_orc_le ..⟩
  | step ht _ ih =>
    exact ⟨ih.1.trans (congrArg (· :: _) (turn_op ht)), Nat.le_trans ih.2 choose_orc_le⟩
  | starve _ _ ih => exact ⟨congrArg (_ :: ·) ih.1, Nat.le_trans ih.2 choose_orc_le⟩
  | pull ht _ _ _ ih₁ ih₂ =>
    exact ⟨by rw [ih₂.1, List.map_cons, List.map_cons, turn_op ht, ih₁.1],
      Nat.le_trans ih₂.2 (Nat.le_trans ih₁.2 choose_orc_le)⟩

/-- the stream that a queue of fetched-ahead upstream answers, followed by the rest `s`, stands for -/
def inqStrm : List Resp → Strm → Strm
  | [], s => s
  | .val v :: q, s => (inqStrm q s).cons v
  | .done :: _, _ => .empty
  | .err e :: _, _ => .fail e
  | .fuel :: q, s => inqStrm q s

def Stage.denote (g : Stage) (s : Strm) : Strm :=
  (match g.mode with
   | .run => fold g.op g.st (inqStrm g.inq s).vals (inqStrm g.inq s).err
   | .stop => Strm.empty
   | .fail e => Strm.fail e).prepend g.pend

def Src.denote (s : Src) : Strm := ⟨s.rest, if s.ended then Option.none else s.err⟩

def denote : List Stage → Src → Strm
  | [], src => src.denote
  | g :: up, src => g.denote (denote up src)

def Spec (r : Resp) (d d' : Strm) : Prop :=
  match r with
  | .val v => d = d'.cons v
  | .done => d = Strm.empty ∧ d' = Strm.empty
  | .err e => d = Strm.fail e ∧ d' = Strm.empty
  | .fuel => True

theorem src_next_spec (s : Src) : Spec s.next.1 s.denote s.next.2.denote := by
  obtain ⟨rest, err, ended, pulled, hand⟩ := s
  cases rest with
  | cons v r => rfl
  | nil =>
    cases ended with
    | true => exact ⟨rfl, rfl⟩
    | false => cases err <;> exact ⟨rfl, rfl⟩

theorem inqStrm_snoc {q : List Resp} {r : Resp} {d d' : Strm} (hs : Spec r d d') (hr : r ≠ .fuel) :
    inqStrm (q ++ [r]) d' = inqStrm q d := by
  induction q with
  | nil =>
    cases r with
    | val v => exact hs.symm
    | done => exact hs.1.symm
    | err e => exact hs.1.symm
    | fuel => exact absurd rfl hr
  | cons a q ih =>
    cases a <;> simp only [List.cons_append, inqStrm, ih]

theorem denote_snoc (g : Stage) {r : Resp} {t t' : Strm} (hs : Spec r t t') (hr : r ≠ .fuel) :
    ({ g with inq := g.inq ++ [r] } : Stage).denote t' = g.denote t := by
  simp only [Stage.denote, inqStrm_snoc hs hr]

theorem take_denote (g : Stage) (r : Resp) (t : Strm) (hp : g.pend = []) (hm : g.mode = .run) :
    (g.take r).denote t = ({ g with inq := r :: g.inq } : Stage).denote t := by
  cases r with
  | val v =>
    simp only [Stage.take, Stage.denote, hm, hp, inqStrm, Strm.cons, fold]
    rcases feed g.op g.st v with ⟨outs, nx⟩
    cases nx <;> simp [Strm.prepend, Strm.empty, Strm.fail]
  | done => simp [Stage.take, Stage.denote, hm, hp, inqStrm, fold, Strm.prepend, Strm.empty]
  | err e => simp [Stage.take, Stage.denote, hm, hp, inqStrm, fold, Strm.prepend, Strm.fail]
  | fuel => simp [Stage.take, Stage.denote, inqStrm]

theorem turn_denote {t : Strm} (ht : g.turn b = tn) :
    match tn with
    | .answer r g' => Spec r (g.denote t) (g'.denote t)
    | .step g' => g'.denote t = g.denote t
    | .pull k => ∀ r t', Spec r t t' → r ≠ .fuel → (k r).denote t' = g.denote t := by
  subst ht
  cases b with
  | true => exact fun r t' hs hr => denote_snoc (g.noteRecv r) hs hr
  | false =>
    obtain ⟨op, st, pend, mode, inq, upDone, recv, hand⟩ := g
    cases pend with
    | cons v rest => exact rfl
    | nil =>
      cases mode with
      | stop | fail e => exact ⟨rfl, rfl⟩
      | run =>
        cases inq with
        | cons r q => exact take_denote _ r t rfl rfl
        | nil =>
          intro r t' hs hr
          rw [take_denote _ r t' rfl rfl]
          exact denote_snoc (Stage.mk op st [] .run [] _ _ hand) hs hr

theorem run_spec (h : Run ss w r ss' w') : Spec r (denote ss w.src) (denote ss' w'.src) := by
  induction h with
  | src w => exact src_next_spec w.src
  | giveUp => trivial
  | starve => trivial
  | answer ht =>
    rw [denote, denote, choose_src]
    exact turn_denote ht
  | step ht _ ih =>
    rw [denote, choose_src, turn_denote ht] at ih
    exact ih
  | pull ht _ hr _ ih₁ ih₂ =>
    rw [choose_src] at ih₁
    rw [denote, turn_denote ht _ _ ih₁ hr] at ih₂
    exact ih₂

theorem next_mono : ∀ (f : Nat) (ss : List Stage) (w : World),
    (next f ss w).1 ≠ .fuel → next (f + 1) ss w = next f ss w
  | _, [], w, _ => by rw [next_nil, next_nil]
  | 0, g :: up, w, h => absurd rfl h
  | f + 1, g :: up, w, h => by
    rw [next_succ (f + 1) g up w, next_succ f g up w]
    rw [next_succ f g up w] at h
    generalize g.turn (g.choose w).1 = t at h ⊢
    cases t with
    | answer r g' => rfl
    | step g' => exact next_mono f _ _ h
    | pull k =>
      dsimp only at h ⊢
      have h₁ : (next f up (g.choose w).2).1 ≠ .fuel := by
        intro hf
        rw [if_pos hf] at h
        exact h rfl
      rw [next_mono f up _ h₁, if_neg h₁, if_neg h₁]
      rw [if_neg h₁] at h
      exact next_mono f _ _ h

theorem next_mono_le {f f' : Nat} (hle : f ≤ f') {ss : List Stage} {w : World}
    (h : (next f ss w).1 ≠ .fuel) : next f' ss w = next f ss w := by
  induction hle with
  | refl => rfl
  | step _ ih => rw [next_mono _ _ _ (by rw [ih]; exact h), ih]

theorem src_next_ne_fuel (s : Src) : s.next.1 ≠ .fuel := by
  unfold Src.next
  split
  · simp
  · split
    · simp
    · split <;> simp

theorem spec_vals_le {d d' : Strm} (h : Spec r d d') (hr : r ≠ .fuel) :
    d'.vals.length ≤ d.vals.length := by
  cases r with
  | val v =>
    cases h
    exact Nat.le_succ _
  | done =>
    obtain ⟨rfl, rfl⟩ := h
    exact Nat.le_refl _
  | err e =>
    obtain ⟨rfl, rfl⟩ := h
    exact Nat.le_refl _
  | fuel => exact absurd rfl hr

def runBit : Mode → Nat
  | .run => 1
  | _ => 0

@[simp] theorem runBit_run : runBit .run = 1 := rfl
@[simp] theorem runBit_stop : runBit .stop = 0 := rfl
@[simp] theorem runBit_fail (e : Err) : runBit (.fail e) = 0 := rfl

theorem runBit_le (m : Mode) : runBit m ≤ 1 := by cases m <;> simp [runBit]

/-- the loop at the outermost stage goes round at most this many times more: `d` is the number of
    values still to come from below, `o` the number of oracle bits left -/
def loopMeasure (g : Stage) (d o : Nat) : Nat := 2 * o + (d + runBit g.mode + g.inq.length)

/-- a worker's fetch uses up an oracle bit; a fetch on demand takes a value from below, or else
    ends the `run` mode -/
theorem turn_measure (ht : g.turn b = tn) :
    match tn with
    | .answer r _ => r ≠ .fuel
    | .step g' => ∀ d o o', o' ≤ o → loopMeasure g' d o' < loopMeasure g d o
    | .pull k => ∀ r t t' o o', Spec r t t' → r ≠ .fuel → o' + b.toNat ≤ o →
        loopMeasure (k r) t'.vals.length o' < loopMeasure g t.vals.length o := by
  subst ht
  cases b with
  | true =>
    intro r t t' o o' hs hr ho
    have := spec_vals_le hs hr
    simp only [loopMeasure, Stage.noteRecv, List.length_append, List.length_singleton,
      Bool.toNat_true] at ho ⊢
    omega
  | false =>
    obtain ⟨op, st, pend, mode, inq, upDone, recv, hand⟩ := g
    cases pend with
    | cons v rest => exact nofun
    | nil =>
      cases mode with
      | stop | fail e => exact nofun
      | run =>
        cases inq with
        | cons r q =>
          intro d o o' ho
          refine Nat.add_lt_add_of_le_of_lt (Nat.mul_le_mul_left 2 ho) ?_
          rw [take_inq]
          exact Nat.add_lt_add_of_le_of_lt (Nat.add_le_add_left (runBit_le _) d)
            (Nat.lt_succ_self _)
        | nil =>
          intro r t t' o o' hs hr ho
          refine Nat.add_lt_add_of_le_of_lt (Nat.mul_le_mul_left 2 ho) ?_
          rw [take_inq]
          refine Nat.lt_succ_of_le ?_
          cases r with
          | val v =>
            cases hs
            exact Nat.add_le_add_left (runBit_le _) _
          | done =>
            obtain ⟨rfl, rfl⟩ := hs
            exact Nat.zero_le _
          | err e =>
            obtain ⟨rfl, rfl⟩ := hs
            exact Nat.zero_le _
          | fuel => exact absurd rfl hr

theorem next_total (ss : List Stage) (w : World) : ∃ F, (next F ss w).1 ≠ .fuel := by
  induction hn : ss.length generalizing ss w with
  | zero =>
    cases List.eq_nil_of_length_eq_zero hn
    exact ⟨0, src_next_ne_fuel _⟩
  | succ n ihn =>
    have loop : ∀ (m : Nat) (g : Stage) (up : List Stage) (w : World), up.length = n →
        loopMeasure g (denote up w.src).vals.length w.orc.length < m →
        ∃ F, (next F (g :: up) w).1 ≠ .fuel := by
      intro m
      induction m with
      | zero => exact fun _ _ _ _ h => absurd h (Nat.not_lt_zero _)
      | succ m ihm =>
        intro g up w hlen hM
        cases ht : g.turn (g.choose w).1 with
        | answer r g' =>
          refine ⟨1, ?_⟩
          rw [next_succ, ht]
          exact turn_measure ht
        | step g' =>
          obtain ⟨F, hF⟩ := ihm g' up (g.choose w).2 hlen (by
            rw [choose_src]
            exact Nat.lt_of_lt_of_le (turn_measure ht _ _ _ choose_orc_le)
              (Nat.le_of_lt_succ hM))
          refine ⟨F + 1, ?_⟩
          rw [next_succ, ht]
          exact hF
        | pull k =>
          obtain ⟨F₁, hF₁⟩ := ihn up (g.choose w).2 hlen
          have run₁ := next_run F₁ up (g.choose w).2
          have sp := run_spec run₁
          rw [choose_src] at sp
          have fr := run_frame run₁
          have hlen₁ : (next F₁ up (g.choose w).2).2.1.length = n := by
            rw [← hlen, ← List.length_map (f := Stage.op), fr.1, List.length_map]
          obtain ⟨F₂, hF₂⟩ := ihm (k (next F₁ up (g.choose w).2).1) _ _ hlen₁
            (Nat.lt_of_lt_of_le
              (turn_measure ht _ _ _ _ _ sp hF₁
                (Nat.le_trans (Nat.add_le_add_right fr.2 _) (choose_orc g w)))
              (Nat.le_of_lt_succ hM))
          refine ⟨max F₁ F₂ + 1, ?_⟩
          rw [next_succ, ht]
          dsimp only
          rw [next_mono_le (Nat.le_max_left ..) hF₁, if_neg hF₁,
            next_mono_le (Nat.le_max_right ..) hF₂]
          exact hF₂
    cases ss with
    | nil => cases hn
    | cons g up => exact loop _ g up w (Nat.succ.inj hn) (Nat.lt_succ_self _)

/-- what a consumer that asks `k` times sees of the terminated stream `d`: its first `k` values,
    and — only if it asks beyond the last value — the ending -/
def expectK (k : Nat) (d : Strm) : List Val × Option Resp :=
  (d.vals.take k,
   if k ≤ d.vals.length then Option.none
   else some (match d.err with
     | Option.none => Resp.done
     | some e => Resp.err e))

theorem expectK_cons (k : Nat) (v : Val) (d : Strm) :
    expectK (k + 1) (d.cons v) = (v :: (expectK k d).1, (expectK k d).2) := by
  simp [expectK, Strm.cons]

theorem takeK_spec {k fuel : Nat} {ss : List Stage} {w : World} :
    (takeK fuel k ss w).2.1 ≠ some .fuel →
    ((takeK fuel k ss w).1, (takeK fuel k ss w).2.1) = expectK k (denote ss w.src) := by
  fun_induction takeK fuel k ss w with
  | case1 ss w => exact fun _ => rfl
  | case2 k ss w v ss' w' hn vs r ss'' w'' hk ih =>
    intro h
    have sp : denote ss w.src = _ := run_spec (.of_next hn)
    rw [hk] at ih
    rw [sp, expectK_cons, ← ih h]
  | case3 k ss w r ss' w' hv hn =>
    intro h
    have sp := run_spec (.of_next hn)
    cases r with
    | val v => exact absurd rfl (hv v)
    | done => exact sp.1 ▸ rfl
    | err e => exact sp.1 ▸ rfl
    | fuel => exact absurd rfl h

/-- one budget serves every `k`: the run never looks at `k` beyond the point where it stops -/
theorem takeK_total : ∀ (n : Nat) (ss : List Stage) (w : World), (denote ss w.src).vals.length < n →
    ∃ F, ∀ fuel, F ≤ fuel → ∀ k, (takeK fuel k ss w).2.1 ≠ some .fuel
  | n + 1, ss, w, hn => by
    obtain ⟨F₁, hF₁⟩ := next_total ss w
    have hnext : ∀ fuel, F₁ ≤ fuel → next fuel ss w = next F₁ ss w :=
      fun fuel hle => next_mono_le hle hF₁
    rcases hr : next F₁ ss w with ⟨r, ss', w'⟩
    rw [hr] at hF₁ hnext
    have sp := run_spec (.of_next hr)
    cases r with
    | val v =>
      obtain ⟨F₂, hF₂⟩ := takeK_total n ss' w' (by
        rw [show denote ss w.src = _ from sp] at hn
        exact Nat.lt_of_succ_lt_succ hn)
      refine ⟨max F₁ F₂, fun fuel hle k => ?_⟩
      cases k with
      | zero => exact nofun
      | succ k =>
        rw [takeK, hnext fuel (Nat.le_trans (Nat.le_max_left ..) hle)]
        exact hF₂ fuel (Nat.le_trans (Nat.le_max_right ..) hle) k
    | done | err e =>
      refine ⟨F₁, fun fuel hle k => ?_⟩
      cases k with
      | zero => exact nofun
      | succ k =>
        rw [takeK, hnext fuel hle]
        exact nofun
    | fuel => exact absurd rfl hF₁

theorem takeK_len {k fuel : Nat} {ss : List Stage} {w : World} :
    (takeK fuel k ss w).2.1 = Option.none → (takeK fuel k ss w).1.length = k := by
  fun_induction takeK fuel k ss w with
  | case1 => exact fun _ => rfl
  | case2 k ss w v ss' w' hn vs r ss'' w'' hk ih =>
    rw [hk] at ih
    exact fun h => congrArg (· + 1) (ih h)
  | case3 => exact nofun

theorem takeK_ops {k fuel : Nat} {ss : List Stage} {w : World} :
    (takeK fuel k ss w).2.2.1.map Stage.op = ss.map Stage.op := by
  fun_induction takeK fuel k ss w with
  | case1 => rfl
  | case2 k ss w v ss' w' hn vs r ss'' w'' hk ih =>
    rw [hk] at ih
    exact ih.trans (run_frame (.of_next hn)).1
  | case3 k ss w r ss' w' _ hn => exact (run_frame (.of_next hn)).1

theorem build_ops (ops : List Op) : (build ops).map Stage.op = ops.reverse := by
  rw [build, List.map_reverse, List.map_map]
  exact congrArg List.reverse (List.map_id'' (fun _ => rfl) ops)

theorem denote_build_append (ops : List Op) (ss : List Stage) (src : Src) :
    denote (build ops ++ ss) src = semAll ops (denote ss src) := by
  induction ops generalizing ss with
  | nil => rfl
  | cons op ops ih =>
    rw [build, List.map_cons, List.reverse_cons, List.append_assoc]
    exact (ih _).trans (congrArg (semAll ops) (fold_init op _))

theorem denote_build (ops : List Op) (vals : List Val) (err : Option Err) (orc : List Bool) :
    denote (build ops) (World.init vals err orc).src = semAll ops ⟨vals, err⟩ := by
  have := denote_build_append ops [] (World.init vals err orc).src
  rw [List.append_nil] at this
  exact this

theorem rebuild_eq {ops : List Op} {ss : List Stage} (h : ss.map Stage.op = (build ops).map Stage.op) :
    rebuild ss = build ops := by
  rw [build, ← List.map_reverse, ← build_ops, ← h, List.map_map]
  rfl

end Pipeline
