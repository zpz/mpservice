import MpsVerif.Proofs.BatchStep
/-!
Shape invariant of the batching-worker model: what may sit in a buffer, in a batch under
assembly, in a released batch and in a recorded call.

Here and in the other invariant files a `*_step` proof names the constructors of `Step` that touch
what the invariant reads; where the rest can share a proof it falls to one `| _ =>` alternative, in
which the facts about the moved worker are re-packed: the fields it did not change are the old ones by `rfl`.
-/
namespace Batch

@[simp] theorem setW_same (s : State) (i : Nat) (w : W) : (setW s i w).ws i = w := by simp [setW]
theorem setW_other (s : State) {i j : Nat} (w : W) (h : j ≠ i) : (setW s i w).ws j = s.ws j := by
  simp [setW, h]
@[simp] theorem setW_clock (s : State) (i : Nat) (w : W) : (setW s i w).clock = s.clock := rfl
@[simp] theorem setW_qin (s : State) (i : Nat) (w : W) : (setW s i w).qin = s.qin := rfl
@[simp] theorem setW_lock (s : State) (i : Nat) (w : W) : (setW s i w).lock = s.lock := rfl
@[simp] theorem setW_out (s : State) (i : Nat) (w : W) : (setW s i w).out = s.out := rfl
@[simp] theorem setW_calls (s : State) (i : Nat) (w : W) : (setW s i w).calls = s.calls := rfl
@[simp] theorem setW_arrived (s : State) (i : Nat) (w : W) : (setW s i w).arrived = s.arrived := rfl
@[simp] theorem setW_nextId (s : State) (i : Nat) (w : W) : (setW s i w).nextId = s.nextId := rfl
@[simp] theorem setW_stopped (s : State) (i : Nat) (w : W) : (setW s i w).stopped = s.stopped := rfl

theorem forall_setW {P : W → Prop} {s : State} (h : ∀ j, P (s.ws j)) {i : Nat} {w : W} (hw : P w) :
    ∀ j, P ((setW s i w).ws j) := by
  intro j
  by_cases hj : j = i
  · rw [hj, setW_same]; exact hw
  · rw [setW_other _ _ hj]; exact h j

section
variable {α : Type} {P : α → Prop} {l : List α}

theorem forall_mem_set (h : ∀ x ∈ l, P x) {j : Nat} {e : α} (he : P e) : ∀ x ∈ l.set j e, P x :=
  fun x hx => (List.mem_or_eq_of_mem_set hx).elim (h x) (· ▸ he)

theorem forall_mem_snoc (h : ∀ x ∈ l, P x) {e : α} (he : P e) : ∀ x ∈ l ++ [e], P x :=
  fun x hx => (List.mem_append.mp hx).elim (h x) fun hx => List.mem_singleton.mp hx ▸ he

/-- `List.set` at a position known through `l[j]?`.  The second equation speaks of the split list, so
    that it still applies after `l` was rewritten by the first. -/
theorem set_split {j : Nat} {e : α} (h : l[j]? = some e) :
    ∃ a b, l = a ++ e :: b ∧ ∀ e', (a ++ e :: b).set j e' = a ++ e' :: b := by
  induction l generalizing j with
  | nil => cases h
  | cons x t ih =>
    cases j with
    | zero =>
      cases h
      exact ⟨[], t, rfl, fun _ => rfl⟩
    | succ j =>
      obtain ⟨a, b, hl, hs⟩ := ih (j := j) h
      exact ⟨x :: a, b, by rw [hl]; rfl, fun e' => by rw [List.cons_append, List.set_cons_succ, hs]; rfl⟩

theorem mem_set_of_mem {j : Nat} {e x e' : α} (h : l[j]? = some e) (hx : x ∈ l) : x = e ∨ x ∈ l.set j e' := by
  obtain ⟨n, hn⟩ := List.mem_iff_getElem?.mp hx
  by_cases hnj : j = n
  · exact .inl (Option.some.inj (hn.symm.trans (hnj ▸ h)))
  · exact .inr (List.mem_iff_getElem?.mpr ⟨n, (List.getElem?_set_ne hnj).trans hn⟩)

theorem mem_set_self {j : Nat} {e e' : α} (h : l[j]? = some e) : e' ∈ l.set j e' :=
  List.mem_set (List.getElem?_eq_some_iff.mp h).1 e'

theorem mem_of_tail {z x : α} {rest : List α} (h : l = z :: rest) (hx : x ∈ rest) : x ∈ l :=
  h ▸ List.mem_cons_of_mem _ hx

end

/-- largest batch the configuration may hand to `call` (with `batch_size = 0`, one bare element) -/
def Cfg.bmax (c : Cfg) : Nat := max c.b 1

/-- a genuine input: regular value accepted by `preprocess`, and it did arrive -/
def Genuine (arr : List Req) (r : Req) : Prop := r.kind = .good ∧ r ∈ arr

def batchOf : GPh → List Req
  | .coll b _ => b
  | .ready b _ => b
  | _ => []

def BatchOk (c : Cfg) (arr : List Req) (b : List Req) : Prop :=
  b ≠ [] ∧ b.length ≤ c.bmax ∧ ∀ r ∈ b, Genuine arr r

def GShape (c : Cfg) (arr : List Req) : GPh → Prop
  | .coll b _ => BatchOk c arr b ∧ b.length < c.b
  | .ready b _ => BatchOk c arr b
  | _ => True

structure WShape (c : Cfg) (arr : List Req) (w : W) : Prop where
  buf : ∀ r, Item.req r ∈ w.buf → Genuine arr r
  held : ∀ r, w.cph = .have (.req r) → r ∈ arr
  gph : GShape c arr w.gph
  pd : ∀ e ∈ w.pd, BatchOk c arr e.batch

def CallOk (c : Cfg) (arr : List Req) (cl : Call) : Prop :=
  BatchOk c arr cl.batch ∧ cl.isList = decide (0 < c.b)

structure ShapeInv (c : Cfg) (s : State) : Prop where
  ws : ∀ j, WShape c s.arrived (s.ws j)
  qin : ∀ r, Item.req r ∈ s.qin → r ∈ s.arrived
  calls : ∀ cl ∈ s.calls, CallOk c s.arrived cl

variable {c : Cfg} {arr arr' : List Req}

theorem BatchOk.mono (h : ∀ r ∈ arr, r ∈ arr') {b : List Req} (g : BatchOk c arr b) : BatchOk c arr' b :=
  ⟨g.1, g.2.1, fun r hr => ⟨(g.2.2 r hr).1, h r (g.2.2 r hr).2⟩⟩

theorem WShape.mono (h : ∀ r ∈ arr, r ∈ arr') {w : W} (g : WShape c arr w) : WShape c arr' w := by
  refine ⟨fun r hr => ⟨(g.buf r hr).1, h r (g.buf r hr).2⟩, fun r hr => h r (g.held r hr), ?_,
    fun e he => (g.pd e he).mono h⟩
  have hg := g.gph
  cases hw : w.gph <;> rw [hw] at hg
  · trivial
  · exact ⟨hg.1.mono h, hg.2⟩
  · exact BatchOk.mono h hg
  · trivial

theorem BatchOk.single {r : Req} (h : Genuine arr r) : BatchOk c arr [r] :=
  ⟨nofun, Nat.le_max_right _ _, fun _ hr => List.mem_singleton.mp hr ▸ h⟩

theorem BatchOk.snoc {b : List Req} {r : Req} (hb : BatchOk c arr b) (hl : b.length < c.b) (h : Genuine arr r) :
    BatchOk c arr (b ++ [r]) := by
  refine ⟨by simp, ?_, ?_⟩
  · rw [List.length_append, List.length_singleton]
    exact Nat.le_trans hl (Nat.le_max_left _ _)
  · exact forall_mem_snoc hb.2.2 h

theorem shape_init (c : Cfg) : ShapeInv c init :=
  ⟨fun _ => ⟨nofun, nofun, trivial, nofun⟩, nofun, nofun⟩

theorem shape_step {c : Cfg} {s : State} {a : Act} {s' : State} (h : ShapeInv c s) (hs : Step c s a s') :
    ShapeInv c s' := by
  obtain ⟨hw, hq, hc⟩ := h
  cases hs with
  | arrive kd =>
    have hm : ∀ r ∈ s.arrived, r ∈ s.arrived ++ [⟨s.nextId, kd⟩] := fun r hr => List.mem_append_left _ hr
    refine ⟨fun j => (hw j).mono hm, ?_, fun cl hcl => ⟨(hc cl hcl).1.mono hm, (hc cl hcl).2⟩⟩
    intro r hr
    rcases List.mem_append.mp hr with hr | hr
    · exact hm r (hq r hr)
    · rw [List.mem_singleton.mp hr |> Item.req.inj]
      exact List.mem_append_right _ List.mem_cons_self
  | stop => exact ⟨hw, fun r hr => hq r (by simpa using hr), hc⟩
  | tick => exact ⟨hw, hq, hc⟩
  | cGet _ _ hqin | cMore _ _ _ hqin =>
    refine ⟨forall_setW hw ⟨(hw _).buf, ?_, (hw _).gph, (hw _).pd⟩, fun r hr => hq r (mem_of_tail hqin hr), hc⟩
    intro r hr
    injection hr with hr
    exact hq r (by simp [hqin, hr])
  | cPutStop =>
    exact ⟨forall_setW hw ⟨fun r hr => (hw _).buf r (by simpa using hr), nofun, (hw _).gph, (hw _).pd⟩,
      fun r hr => hq r (by simpa using hr), hc⟩
  | cPutGood _ hp hk =>
    refine ⟨forall_setW hw ⟨fun r' hr' => ?_, nofun, (hw _).gph, (hw _).pd⟩, hq, hc⟩
    rcases List.mem_append.mp hr' with h1 | h1
    · exact (hw _).buf r' h1
    · rw [List.mem_singleton.mp h1 |> Item.req.inj]
      exact ⟨hk, (hw _).held _ hp⟩
  | gFirstStop _ _ _ _ hb =>
    exact ⟨forall_setW hw ⟨fun r hr => (hw _).buf r (mem_of_tail hb hr), (hw _).held, trivial, (hw _).pd⟩,
      fun r hr => hq r (by simpa using hr), hc⟩
  | gFirstReq _ hb1 _ _ hb =>
    have hr := (hw _).buf _ (hb ▸ List.mem_cons_self)
    exact ⟨forall_setW hw ⟨fun r hr => (hw _).buf r (mem_of_tail hb hr), (hw _).held, ⟨.single hr, hb1⟩, (hw _).pd⟩,
      hq, hc⟩
  | gNextStop _ hg _ hb =>
    have hg' := hg ▸ (hw _).gph
    exact ⟨forall_setW hw ⟨fun r hr => (hw _).buf r (mem_of_tail hb (by simpa using hr)), (hw _).held, hg'.1, (hw _).pd⟩, hq, hc⟩
  | gNextMore _ hg _ hb hm =>
    have hg' := hg ▸ (hw _).gph
    have hr := (hw _).buf _ (hb ▸ List.mem_cons_self)
    exact ⟨forall_setW hw ⟨fun r hr => (hw _).buf r (mem_of_tail hb hr), (hw _).held, ⟨hg'.1.snoc hg'.2 hr, hm⟩,
      (hw _).pd⟩, hq, hc⟩
  | gNextFull _ hg _ hb =>
    have hg' := hg ▸ (hw _).gph
    have hr := (hw _).buf _ (hb ▸ List.mem_cons_self)
    exact ⟨forall_setW hw ⟨fun r hr => (hw _).buf r (mem_of_tail hb hr), (hw _).held, hg'.1.snoc hg'.2 hr, (hw _).pd⟩,
      hq, hc⟩
  | gTimeout _ hg =>
    have hg' := hg ▸ (hw _).gph
    exact ⟨forall_setW hw ⟨(hw _).buf, (hw _).held, hg'.1, (hw _).pd⟩, hq, hc⟩
  | gRelease _ hg =>
    have hg' := hg ▸ (hw _).gph
    exact ⟨forall_setW hw ⟨(hw _).buf, (hw _).held, trivial, forall_mem_snoc (hw _).pd hg'⟩, hq, hc⟩
  | sGetStop _ _ _ _ hqin =>
    exact ⟨forall_setW hw ⟨(hw _).buf, (hw _).held, trivial, (hw _).pd⟩,
      fun r hr => hq r (mem_of_tail hqin (by simpa using hr)), hc⟩
  | sGetGood _ _ _ _ hqin hk =>
    have hr := BatchOk.single (c := c) ⟨hk, hq _ (hqin ▸ List.mem_cons_self)⟩
    exact ⟨forall_setW hw ⟨(hw _).buf, (hw _).held, (hw _).gph, forall_mem_snoc (hw _).pd hr⟩,
      fun r hr => hq r (mem_of_tail hqin hr), hc⟩
  | sGetShort _ _ _ _ hqin => exact ⟨hw, fun r hr => hq r (mem_of_tail hqin hr), hc⟩
  | callEnter _ he =>
    have hb := (hw _).pd _ (List.mem_of_getElem? he)
    exact ⟨forall_setW hw ⟨(hw _).buf, (hw _).held, (hw _).gph, forall_mem_set (hw _).pd hb⟩, hq,
      forall_mem_snoc hc ⟨hb, rfl⟩⟩
  | callRet _ _ he =>
    have hb := (hw _).pd _ (List.mem_of_getElem? he)
    exact ⟨forall_setW hw ⟨(hw _).buf, (hw _).held, (hw _).gph, forall_mem_set (hw _).pd hb⟩, hq, hc⟩
  | emit _ hp =>
    exact ⟨forall_setW hw ⟨(hw _).buf, (hw _).held, (hw _).gph, fun e he => (hw _).pd e (mem_of_tail hp he)⟩, hq, hc⟩
  | _ => exact ⟨forall_setW hw ⟨(hw _).buf, nofun, (hw _).gph, (hw _).pd⟩, hq, hc⟩

theorem shape_reachable {c : Cfg} {s : State} (hr : Reachable c s) : ShapeInv c s :=
  reachable_inv (shape_init c) (fun _ _ _ => shape_step) hr

end Batch
