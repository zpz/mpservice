import MpsVerif.Proofs.PipelineNext
/-!
# Incremental consumption: bounded look-ahead of chains of one-to-one operators

Ghost counters: `Stage.recv` (answers — values or the error — taken from below), `Stage.hand`
(answers handed on), `Src.hand`.  For a one-to-one operator every answer taken is either handed
on, or still owed (pending value, exception on its way out, fetched ahead in `inq`), or — `head`
only, once — the element `n+1` that `Header` pulls to find out that it is done.
-/
namespace Pipeline

def failBit : Mode → Nat
  | .fail _ => 1
  | _ => 0

/-- `Header` has consumed the element that told it to stop -/
def headBit (g : Stage) : Nat := if g.op.isHead && g.mode != .run then 1 else 0

def inqc (g : Stage) : Nat := g.inq.countP Resp.counts

def due (g : Stage) : Nat := g.pend.length + failBit g.mode + headBit g

structure Good (g : Stage) : Prop where
  one : g.op.oneOne = true
  cap : g.inq.length ≤ lookahead g.op
  bal : g.recv ≤ g.hand + due g + inqc g
  pend1 : g.pend.length ≤ 1
  pendRun : g.pend = [] ∨ g.mode = .run

def topHand : List Stage → World → Nat
  | [], w => w.src.hand
  | g :: _, _ => g.hand

def Linked : List Stage → World → Prop
  | [], _ => True
  | g :: up, w => g.recv = topHand up w ∧ Linked up w

structure Inv (ss : List Stage) (w : World) : Prop where
  good : ∀ g ∈ ss, Good g
  linked : Linked ss w
  src : w.src.pulled ≤ w.src.hand

def Rest (g : Stage) : Prop := g.pend = [] ∧ failBit g.mode = 0

def cnt (r : Resp) : Nat := if r.counts then 1 else 0

theorem feed_oneOne (op : Op) (st : OpSt) (v : Val) (h : op.oneOne = true) :
    match feed op st v with
    | (outs, .cont _) => outs.length = 1
    | (outs, .stop) => outs = [] ∧ op.isHead = true
    | (outs, .raise _) => outs = [] := by
  cases op with
  | map f =>
    rw [feed]
    cases f v <;> rfl
  | peek | buffer n => rfl
  | accumulate g i =>
    rw [feed]
    cases st.acc with
    | none => rfl
    | some z =>
      dsimp only
      cases g z v <;> rfl
  | head n =>
    rw [feed]
    by_cases hc : st.cnt ≥ n
    · rw [if_pos hc]
      exact ⟨rfl, rfl⟩
    · rw [if_neg hc]
      rfl
  | parmap f c rx re =>
    rw [feed]
    cases f v with
    | ok y => rfl
    | raise e => cases re <;> rfl
  | _ => cases h

theorem flush_oneOne (op : Op) (st : OpSt) (h : op.oneOne = true) : flush op st = [] := by
  cases op <;> first | rfl | cases h

theorem due_of_run {g : Stage} (hm : g.mode = .run) : due g = g.pend.length := by
  simp only [due, headBit, hm, failBit, bne_self_eq_false, Bool.and_false, Bool.false_eq_true,
    if_false, Nat.add_zero]

theorem due_of_pend {g : Stage} (h : g.pend.length = 1) : 1 ≤ due g :=
  h ▸ Nat.le_trans (Nat.le_add_right ..) (Nat.le_add_right ..)

theorem due_of_fail {g : Stage} {e : Err} (h : g.mode = .fail e) : 1 ≤ due g := by
  rw [due, h]
  exact Nat.le_trans (Nat.le_add_left ..) (Nat.le_add_right ..)

theorem due_of_head {g : Stage} (h : g.op.isHead = true) (hm : g.mode = .stop) : 1 ≤ due g := by
  rw [due, headBit, h, hm]
  exact Nat.le_add_left ..

theorem take_due (g : Stage) (r : Resp) (h1 : g.op.oneOne = true) (hp : g.pend = [])
    (hm : g.mode = .run) :
    cnt r ≤ due (g.take r) ∧ (g.take r).pend.length ≤ 1 ∧
      ((g.take r).pend = [] ∨ (g.take r).mode = .run) := by
  cases r with
  | val v =>
    have hf := feed_oneOne g.op g.st v h1
    rw [Stage.take]
    generalize feed g.op g.st v = fd at hf
    obtain ⟨outs, nx⟩ := fd
    cases nx with
    | cont st' => exact ⟨due_of_pend hf, Nat.le_of_eq hf, Or.inr hm⟩
    | stop => exact ⟨due_of_head hf.2 rfl, hf.1 ▸ Nat.zero_le 1, Or.inl hf.1⟩
    | raise e => exact ⟨due_of_fail rfl, hf ▸ Nat.zero_le 1, Or.inl hf⟩
  | done =>
    have : (g.take .done).pend = [] := flush_oneOne g.op g.st h1
    exact ⟨Nat.zero_le _, this ▸ Nat.zero_le 1, Or.inl this⟩
  | err e => exact ⟨due_of_fail rfl, hp ▸ Nat.zero_le _, Or.inl hp⟩
  | fuel => exact ⟨Nat.zero_le _, hp ▸ Nat.zero_le _, Or.inl hp⟩

theorem noteRecv_recv (g : Stage) (r : Resp) : (g.noteRecv r).recv = g.recv + cnt r := by
  simp only [Stage.noteRecv, cnt]
  split <;> rfl

theorem choose_true_may {g : Stage} {w : World} (h : (g.choose w).1 = true) : g.mayPrefetch = true := by
  unfold Stage.choose at h
  split at h
  · assumption
  · simp at h

theorem good_prefetch (g : Stage) (r : Resp) (hg : Good g) (hm : g.mayPrefetch = true) :
    Good { g.noteRecv r with inq := g.inq ++ [r] } := by
  obtain ⟨one, cap, bal, pend1, pendRun⟩ := hg
  rw [Stage.mayPrefetch, Bool.and_eq_true, decide_eq_true_eq] at hm
  refine ⟨one, ?_, ?_, pend1, pendRun⟩
  · show (g.inq ++ [r]).length ≤ lookahead g.op
    rw [List.length_append]
    exact hm.2
  · show (g.noteRecv r).recv ≤ g.hand + due g + List.countP Resp.counts (g.inq ++ [r])
    rw [noteRecv_recv, List.countP_append, List.countP_singleton, ← Nat.add_assoc]
    exact Nat.add_le_add_right bal _

theorem good_deliver (g : Stage) (v : Val) (rest : List Val) (hg : Good g) (hp : g.pend = v :: rest) :
    Good { g with pend := rest, hand := g.hand + 1 } ∧
      Rest { g with pend := rest, hand := g.hand + 1 } := by
  obtain ⟨one, cap, bal, pend1, pendRun⟩ := hg
  rw [hp] at pend1 pendRun
  cases List.eq_nil_of_length_eq_zero (Nat.le_zero.1 (Nat.le_of_succ_le_succ pend1))
  have hm : g.mode = .run := pendRun.resolve_left nofun
  rw [due_of_run hm, hp] at bal
  refine ⟨⟨one, cap, ?_, Nat.zero_le _, Or.inl rfl⟩, rfl, congrArg failBit hm⟩
  rw [due_of_run (by exact hm)]
  exact bal

theorem good_failed (g : Stage) (e : Err) (hg : Good g) (hp : g.pend = []) (hm : g.mode = .fail e) :
    Good { g with mode := .stop, hand := g.hand + 1 } := by
  obtain ⟨one, cap, bal, pend1, pendRun⟩ := hg
  refine ⟨one, cap, ?_, pend1, Or.inl hp⟩
  have hb : headBit { g with mode := .stop, hand := g.hand + 1 } = headBit g := by
    rw [headBit, headBit, hm]
    rfl
  rw [due, hp, hm] at bal
  rw [due, hb, hp]
  simp only [failBit, List.length_nil, Nat.zero_add, Nat.add_zero] at bal ⊢
  rw [Nat.add_assoc g.hand 1]
  exact bal

theorem good_take (g : Stage) (r : Resp) (one : g.op.oneOne = true) (cap : g.inq.length ≤ lookahead g.op)
    (hp : g.pend = []) (hm : g.mode = .run) (bal : g.recv ≤ g.hand + cnt r + inqc g) :
    Good (g.take r) := by
  have td := take_due g r one hp hm
  refine ⟨by rw [take_op]; exact one, by rw [take_inq, take_op]; exact cap, ?_, td.2.1, td.2.2⟩
  rw [take_recv, take_hand, inqc, take_inq]
  exact Nat.le_trans bal (Nat.add_le_add_right (Nat.add_le_add_left td.1 _) _)

theorem turn_good {g : Stage} {b : Bool} {tn : Turn} (ht : g.turn b = tn) (hg : Good g)
    (hb : b = true → g.mayPrefetch = true) :
    match tn with
    | .answer r g' => Good g' ∧ g'.recv = g.recv ∧ g'.hand = g.hand + cnt r ∧ Rest g'
    | .step g' => Good g' ∧ g'.recv = g.recv ∧ g'.hand = g.hand
    | .pull k => ∀ r, Good (k r) ∧ (k r).recv = g.recv + cnt r ∧ (k r).hand = g.hand := by
  subst ht
  cases b with
  | true => exact fun r => ⟨good_prefetch g r hg (hb rfl), noteRecv_recv g r, rfl⟩
  | false =>
    obtain ⟨op, st, pend, mode, inq, upDone, recv, hand⟩ := g
    cases pend with
    | cons v rest =>
      have := good_deliver _ v rest hg rfl
      exact ⟨this.1, rfl, rfl, this.2⟩
    | nil =>
      cases mode with
      | stop => exact ⟨hg, rfl, rfl, rfl, rfl⟩
      | fail e => exact ⟨good_failed _ e hg rfl rfl, rfl, rfl, rfl, rfl⟩
      | run =>
        have bal := hg.bal
        rw [due_of_run rfl, List.length_nil, Nat.add_zero] at bal
        cases inq with
        | cons r q =>
          refine ⟨good_take _ r hg.one (Nat.le_of_succ_le hg.cap) rfl rfl ?_, take_recv _ _, take_hand _ _⟩
          rw [inqc, List.countP_cons, Nat.add_comm (List.countP ..), ← Nat.add_assoc] at bal
          exact bal
        | nil =>
          intro r
          refine ⟨good_take _ r hg.one hg.cap rfl rfl ?_, ?_, take_hand _ _⟩
          · rw [noteRecv_recv]
            exact Nat.add_right_comm .. ▸ Nat.add_le_add_right bal (cnt r)
          · rw [take_recv, noteRecv_recv]

theorem topHand_congr (ss : List Stage) {w w₁ : World} (h : w₁.src = w.src) :
    topHand ss w₁ = topHand ss w := by
  cases ss with
  | nil => exact congrArg Src.hand h
  | cons => rfl

theorem linked_congr {w w₁ : World} (h : w₁.src = w.src) :
    ∀ ss : List Stage, Linked ss w → Linked ss w₁
  | [], _ => trivial
  | _ :: up, hl => ⟨hl.1.trans (topHand_congr up h).symm, linked_congr h up hl.2⟩

theorem inv_choose {ss : List Stage} {w : World} (g : Stage) (hi : Inv ss w) : Inv ss (g.choose w).2 :=
  ⟨hi.good, linked_congr (choose_src g w) ss hi.linked, (choose_src g w).symm ▸ hi.src⟩

theorem src_next_inv (s : Src) (h : s.pulled ≤ s.hand) :
    s.next.2.pulled ≤ s.next.2.hand ∧ s.next.2.hand = s.hand + cnt s.next.1 := by
  unfold Src.next
  split
  · exact ⟨Nat.succ_le_succ h, rfl⟩
  · split
    · exact ⟨h, rfl⟩
    · split
      · exact ⟨h, rfl⟩
      · exact ⟨Nat.le_succ_of_le h, rfl⟩

theorem inv_cons {g : Stage} {up : List Stage} {w : World} :
    Inv (g :: up) w ↔ Good g ∧ g.recv = topHand up w ∧ Inv up w :=
  ⟨fun hi => ⟨hi.good g List.mem_cons_self, hi.linked.1,
      fun x hx => hi.good x (List.mem_cons_of_mem g hx), hi.linked.2, hi.src⟩,
    fun ⟨hg, hl, hi⟩ => ⟨List.forall_mem_cons.2 ⟨hg, hi.good⟩, ⟨hl, hi.linked⟩, hi.src⟩⟩

theorem run_inv {ss ss' : List Stage} {w w' : World} {r : Resp} (h : Run ss w r ss' w')
    (hr : r ≠ .fuel) (hi : Inv ss w) :
    Inv ss' w' ∧ topHand ss' w' = topHand ss w + cnt r ∧
      ((∀ g ∈ ss.tail, Rest g) → ∀ g ∈ ss', Rest g) := by
  induction h with
  | src w =>
    have := src_next_inv w.src hi.src
    exact ⟨⟨fun _ h => (nomatch h), trivial, this.1⟩, this.2, fun _ _ h => (nomatch h)⟩
  | giveUp => exact absurd rfl hr
  | starve => exact absurd rfl hr
  | @answer _ _ _ g w ht =>
    obtain ⟨hg, hl, hup⟩ := inv_cons.1 (inv_choose g hi)
    obtain ⟨gd, hrecv, hhand, hrest⟩ := turn_good ht hg choose_true_may
    exact ⟨inv_cons.2 ⟨gd, hrecv.trans hl, hup⟩, hhand, fun h => List.forall_mem_cons.2 ⟨hrest, h⟩⟩
  | @step _ _ r _ _ g w ht _ ih =>
    obtain ⟨hg, hl, hup⟩ := inv_cons.1 (inv_choose g hi)
    obtain ⟨gd, hrecv, hhand⟩ := turn_good ht hg choose_true_may
    obtain ⟨inv', th, rest⟩ := ih hr (inv_cons.2 ⟨gd, hrecv.trans hl, hup⟩)
    exact ⟨inv', th.trans (congrArg (· + cnt r) hhand), rest⟩
  | @pull _ _ r₁ _ _ r _ _ g w ht _ hr₁ _ ih₁ ih₂ =>
    obtain ⟨hg, hl, hup⟩ := inv_cons.1 (inv_choose g hi)
    obtain ⟨gd, hrecv, hhand⟩ := turn_good ht hg choose_true_may r₁
    obtain ⟨inv₁, th₁, rest₁⟩ := ih₁ hr₁ hup
    obtain ⟨inv', th, rest⟩ := ih₂ hr (inv_cons.2 ⟨gd, by rw [hrecv, th₁, hl], inv₁⟩)
    exact ⟨inv', th.trans (congrArg (· + cnt r) hhand),
      fun h => rest (rest₁ fun x hx => h x (List.mem_of_mem_tail hx))⟩

theorem slackAll_eq (ops : List Op) : slackAll ops = (ops.map slack).sum := by
  induction ops with
  | nil => rfl
  | cons op ops ih => simp [slackAll, ih]

theorem isHead_lookahead (op : Op) (h : op.isHead = true) : lookahead op = 0 := by
  cases op <;> simp [Op.isHead] at h <;> rfl

/-- what a stage at rest may hold back is covered by its look-ahead constant -/
theorem held_le_slack {g : Stage} (hg : Good g) : headBit g + inqc g ≤ slack g.op := by
  have hc : inqc g ≤ lookahead g.op := Nat.le_trans List.countP_le_length hg.cap
  rw [slack, headBit]
  cases hh : g.op.isHead with
  | true =>
    rw [isHead_lookahead g.op hh] at hc
    rw [Nat.le_zero.1 hc]
    simp only [Bool.true_and, if_true]
    split
    · exact Nat.le_refl _
    · exact Nat.zero_le _
  | false =>
    simp only [Bool.false_and, Bool.false_eq_true, if_false, Nat.zero_add]
    exact hc

/-- at rest, everything pulled from the source is accounted for by what the consumer was handed
    plus the stages' look-ahead constants -/
theorem pulled_le : ∀ (ss : List Stage) (w : World), Inv ss w → (∀ g ∈ ss, Rest g) →
    w.src.pulled ≤ topHand ss w + slackAll (ss.map Stage.op)
  | [], _, hi, _ => hi.src
  | g :: up, w, hi, hrest => by
    rw [List.forall_mem_cons] at hrest
    obtain ⟨hg, hl, hup⟩ := inv_cons.1 hi
    have bal := hg.bal
    rw [due, hrest.1.1, hrest.1.2, List.length_nil, hl] at bal
    have held := held_le_slack hg
    have ih := pulled_le up w hup hrest.2
    show w.src.pulled ≤ g.hand + (slack g.op + slackAll (up.map Stage.op))
    omega

theorem init_inv (w : World) (hp : w.src.pulled = 0) (hh : w.src.hand = 0) :
    ∀ ops : List Op, (∀ op ∈ ops, op.oneOne = true) →
      Inv (ops.map Stage.init) w ∧ (∀ g ∈ ops.map Stage.init, Rest g) ∧
        topHand (ops.map Stage.init) w = 0
  | [], _ =>
    ⟨⟨fun _ h => (nomatch h), trivial, Nat.le_of_eq (hp.trans hh.symm)⟩, fun _ h => (nomatch h), hh⟩
  | op :: ops, h => by
    rw [List.forall_mem_cons] at h
    obtain ⟨inv, rest, th⟩ := init_inv w hp hh ops h.2
    exact ⟨inv_cons.2 ⟨⟨h.1, Nat.zero_le _, Nat.zero_le _, Nat.zero_le _, Or.inl rfl⟩, th.symm, inv⟩,
      List.forall_mem_cons.2 ⟨⟨rfl, rfl⟩, rest⟩, rfl⟩

theorem build_inv (ops : List Op) (hone : ∀ op ∈ ops, op.oneOne = true) (vals : List Val) (err : Option Err)
    (orc : List Bool) :
    Inv (build ops) (World.init vals err orc) ∧ (∀ g ∈ build ops, Rest g) ∧
      topHand (build ops) (World.init vals err orc) = 0 := by
  rw [build, ← List.map_reverse]
  exact init_inv _ rfl rfl _ fun op h => hone op (List.mem_reverse.1 h)

theorem takeK_inv {k fuel : Nat} {ss ss' : List Stage} {w w' : World} {vs : List Val} {r : Option Resp} :
    takeK fuel k ss w = (vs, r, ss', w') → r ≠ some .fuel → Inv ss w → (∀ g ∈ ss, Rest g) →
    Inv ss' w' ∧ (∀ g ∈ ss', Rest g) ∧
      topHand ss' w' = topHand ss w + vs.length + (match r with
        | some r => cnt r
        | Option.none => 0) := by
  fun_induction takeK fuel k ss w generalizing vs r ss' w' with
  | case1 ss w =>
    rintro ⟨⟩ _ hi hrest
    exact ⟨hi, hrest, rfl⟩
  | case2 k ss w v ss₁ w₁ hn vs₁ r₁ ss₂ w₂ hk ih =>
    rintro ⟨⟩ hr hi hrest
    obtain ⟨inv₁, th₁, rest₁⟩ := run_inv (.of_next hn) nofun hi
    obtain ⟨inv', rest', th'⟩ := ih hk hr inv₁ (rest₁ fun g hg => hrest g (List.mem_of_mem_tail hg))
    refine ⟨inv', rest', ?_⟩
    rw [th', th₁, List.length_cons, Nat.add_assoc (topHand ss w), Nat.add_comm (cnt _)]
    rfl
  | case3 k ss w r₁ ss₁ w₁ _ hn =>
    rintro ⟨⟩ hr hi hrest
    obtain ⟨inv₁, th₁, rest₁⟩ := run_inv (.of_next hn) (fun hf => hr (congrArg some hf)) hi
    exact ⟨inv₁, rest₁ fun g hg => hrest g (List.mem_of_mem_tail hg), th₁⟩

theorem slackAll_build (ops : List Op) : slackAll ((build ops).map Stage.op) = slackAll ops := by
  rw [build_ops, slackAll_eq, slackAll_eq, List.map_reverse, List.sum_reverse_nat]

end Pipeline
