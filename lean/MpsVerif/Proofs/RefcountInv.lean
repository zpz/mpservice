import MpsVerif.Model.Refcount
import MpsVerif.Core.Sys
/-! What an enabled step does to `refs` and `rc` is put together from three moves: adding a reference
    with its increment (`inv_add`), handing a reference to another holder (`inv_move`), removing one
    with its decrement (`inv_drop`); `call` does none, `unpickle` two, `create` has `inv_create`.
    The net effects of a proxy's journey as a pickle (`run_receive`, `run_pass`, `run_reply`,
    `run_create`) hold in every state, not only in reachable ones. -/
namespace Refcount

theorem countP_erase_mem {α : Type} [BEq α] [LawfulBEq α] (p : α → Bool) {a : α} {l : List α}
    (h : a ∈ l) : (l.erase a).countP p + (if p a then 1 else 0) = l.countP p := by
  rw [(List.perm_cons_erase h).countP_eq p, List.countP_cons]

theorem countP_erase_ref {l : List Ref} {hd : Holder} {i : Nat} (hm : (hd, i) ∈ l) (j : Nat) :
    (l.erase (hd, i)).countP (fun r => r.2 == j) + (if i = j then 1 else 0)
      = l.countP (fun r => r.2 == j) := by
  rw [← countP_erase_mem _ hm]
  simp

theorem mem_cons_erase {α : Type} [BEq α] {a b r : α} {l : List α}
    (h : r ∈ b :: l.erase a) : r = b ∨ r ∈ l :=
  (List.mem_cons.mp h).imp_right List.mem_of_mem_erase

theorem orphan_snd (c : Nat) (r : Ref) : (orphan c r).2 = r.2 := by
  unfold orphan
  split <;> rfl

theorem countP_map_orphan (c i : Nat) (l : List Ref) :
    (l.map (orphan c)).countP (fun r => r.2 == i) = l.countP (fun r => r.2 == i) := by
  rw [List.countP_map]
  congr 1
  funext r
  simp [orphan_snd]

/-- `orphan c` makes nothing but `temp` references, and leaves no `item c` behind -/
theorem mem_map_orphan {c : Nat} {l : List Ref} {h : Holder} {i : Nat}
    (hm : (h, i) ∈ l.map (orphan c)) (ht : h ≠ .temp) : h ≠ .item c ∧ (h, i) ∈ l := by
  obtain ⟨r, hr, he⟩ := List.mem_map.mp hm
  unfold orphan at he
  split at he
  · cases he
    exact absurd rfl ht
  · rename_i h1
    subst he
    exact ⟨h1, hr⟩

theorem decref_of_lt {t : State} {i : Nat} (h : 1 < t.rc i) :
    decref t i = { t with rc := fun j => if j = i then t.rc i - 1 else t.rc j } :=
  if_neg (Nat.not_le.mpr h)

theorem decref_of_le {t : State} {i : Nat} (h : t.rc i ≤ 1) :
    decref t i = { t with rc := fun j => if j = i then 0 else t.rc j
                          hosted := fun j => if j = i then false else t.hosted j
                          shm := fun j => if j = i then false else t.shm j
                          refs := t.refs.map (orphan i) } :=
  if_pos h

theorem step_pickle {s : State} {h : Holder} {i : Nat} (hm : (h, i) ∈ s.refs) (ht : h ≠ .transit)
    (hr : h ≠ .rebuild) (hc : canAct s h = true) (hh : s.hosted i = true) :
    step s (.pickle h i) = some { incref s i with refs := (.transit, i) :: s.refs } :=
  if_pos ⟨hm, ht, hr, hc, hh⟩

theorem step_unpickle {s : State} {dst : Holder} {i : Nat} (hm : (.transit, i) ∈ s.refs)
    (hh : s.hosted i = true) (hd : dstOk s dst = true) :
    step s (.unpickle dst i) =
      some { incref s i with refs := (dst, i) :: (.rebuild, i) :: s.refs.erase (.transit, i) } :=
  if_pos ⟨hm, hh, hd⟩

theorem step_drop {s : State} {h : Holder} {i : Nat} (hm : (h, i) ∈ s.refs) (hpos : 0 < s.rc i)
    (hk : h = .temp ∨ h = .rebuild ∨ (h.isClient = true ∧ canAct s h = true)) :
    step s (.drop h i) = some (decref { s with refs := s.refs.erase (h, i) } i) :=
  if_pos ⟨hm, hpos, hk⟩

theorem rc_incref_pos (s : State) (i : Nat) (l : List Ref) :
    0 < ({ incref s i with refs := l } : State).rc i := by
  show 0 < (if i = i then s.rc i + 1 else s.rc i)
  rw [if_pos rfl]
  exact Nat.succ_pos _

theorem decref_incref {s : State} {i : Nat} (hpos : 0 < s.rc i) (l : List Ref) :
    decref { incref s i with refs := l } i = { s with refs := l } := by
  have hgt : 1 < ({ incref s i with refs := l } : State).rc i := by
    show 1 < (if i = i then s.rc i + 1 else s.rc i)
    rw [if_pos rfl]
    exact Nat.succ_lt_succ hpos
  rw [decref_of_lt hgt]
  simp only [incref, State.mk.injEq, and_true]
  funext j
  by_cases hj : j = i <;> simp [hj]

theorem run_receive {s : State} {dst : Holder} {i : Nat} (hm : (.transit, i) ∈ s.refs)
    (hh : s.hosted i = true) (hd : dstOk s dst = true) (hpos : 0 < s.rc i) :
    Core.run step s [.unpickle dst i, .drop .rebuild i] =
      some { s with refs := (dst, i) :: s.refs.erase (.transit, i) } := by
  have hne : ¬ ((dst, i) == (Holder.rebuild, i)) = true := by
    cases dst <;> first | exact Bool.noConfusion | exact absurd hd Bool.noConfusion
  rw [Core.run_cons, step_unpickle hm hh hd, Option.bind_some, Core.run_cons,
    step_drop (List.mem_cons_of_mem _ List.mem_cons_self) (rc_incref_pos s i _) (Or.inr (Or.inl rfl))]
  simp only [List.erase_cons_tail hne, List.erase_cons_head, decref_incref hpos]
  rfl

theorem run_pass {s : State} {h dst : Holder} {i : Nat} (hm : (h, i) ∈ s.refs)
    (ht : h ≠ .transit) (hr : h ≠ .rebuild) (hc : canAct s h = true) (hh : s.hosted i = true)
    (hd : dstOk s dst = true) :
    Core.run step s [.pickle h i, .unpickle dst i, .drop .rebuild i] =
      some { incref s i with refs := (dst, i) :: s.refs } := by
  rw [Core.run_cons, step_pickle hm ht hr hc hh, Option.bind_some, run_receive]
  · simp only [List.erase_cons_head]
  · exact List.mem_cons_self
  · exact hh
  · exact hd
  · exact rc_incref_pos s i _

/-- the server sends a temporary of its own as the reply and lets go of it -/
theorem run_reply {s : State} {dst : Holder} {i : Nat} (hm : (.temp, i) ∈ s.refs)
    (hh : s.hosted i = true) (hd : dstOk s dst = true) (hpos : 0 < s.rc i) :
    Core.run step s [.pickle .temp i, .drop .temp i, .unpickle dst i, .drop .rebuild i] =
      some { s with refs := (dst, i) :: s.refs.erase (.temp, i) } := by
  rw [Core.run_cons, step_pickle hm Holder.noConfusion Holder.noConfusion rfl hh, Option.bind_some,
    Core.run_cons, step_drop (List.mem_cons_of_mem _ hm) (rc_incref_pos s i _) (Or.inl rfl),
    Option.bind_some]
  simp only [List.erase_cons_tail (a := (Holder.temp, i)) (b := (Holder.transit, i)) Bool.noConfusion,
    decref_incref hpos]
  rw [run_receive]
  · simp only [List.erase_cons_head]
  · exact List.mem_cons_self
  · exact hh
  · exact hd
  · exact hpos

theorem run_create {s : State} (k : Kind) {dst : Holder} {i : Nat} (hi : s.hosted i = false)
    (hd : dstOk s dst = true) :
    Core.run step s
        [.create k i, .pickle .temp i, .drop .temp i, .unpickle dst i, .drop .rebuild i] =
      some { s with rc := fun j => if j = i then 1 else s.rc j
                    hosted := fun j => if j = i then true else s.hosted j
                    kind := fun j => if j = i then k else s.kind j
                    shm := fun j => if j = i then decide (k = .mem) else s.shm j
                    refs := (dst, i) :: s.refs } := by
  rw [Core.run_cons, (show step s (.create k i) = some _ from if_pos hi), Option.bind_some, run_reply]
  · simp only [List.erase_cons_head]
  · exact List.mem_cons_self
  · exact if_pos rfl
  · exact hd
  · show 0 < (if i = i then 1 else s.rc i)
    rw [if_pos rfl]
    exact Nat.one_pos

structure Inv (s : State) : Prop where
  count : ∀ i, s.rc i = s.refs.countP (fun r => r.2 == i)
  hosted : ∀ i, s.hosted i = true ↔ 0 < s.rc i
  item : ∀ c i, (Holder.item c, i) ∈ s.refs → s.hosted c = true ∧ s.kind c = .cont
  shm : ∀ i, s.shm i = true ↔ (s.hosted i = true ∧ s.kind i = .mem)
  exited : ∀ p i, s.stat p = .exited → (Holder.client p, i) ∉ s.refs

theorem inv_init : Inv init := by
  constructor <;> simp [init]

theorem pos_of_mem {s : State} (h : Inv s) {hd : Holder} {i : Nat} (hm : (hd, i) ∈ s.refs) :
    0 < s.rc i := by
  rw [h.count i]
  exact List.countP_pos_iff.mpr ⟨(hd, i), hm, by simp⟩

theorem hosted_of_mem {s : State} (h : Inv s) {hd : Holder} {i : Nat} (hm : (hd, i) ∈ s.refs) :
    s.hosted i = true :=
  (h.hosted i).mpr (pos_of_mem h hm)

theorem released_of_rc {s : State} (h : Inv s) {i : Nat} (h0 : s.rc i = 0) :
    s.hosted i = false ∧ s.shm i = false := by
  have hh : ¬ s.hosted i = true := fun hh => by
    have := (h.hosted i).mp hh
    omega
  exact ⟨Bool.eq_false_iff.mpr hh, Bool.eq_false_iff.mpr fun hs => hh ((h.shm i).mp hs).1⟩

theorem canAct_client {s : State} {p : Nat} :
    canAct s (.client p) = true ↔ s.stat p ≠ .exited := by
  simp [canAct]

theorem inv_add {s : State} (h : Inv s) {hd : Holder} {i : Nat} (hh : s.hosted i = true)
    (hc : canAct s hd = true) (hn : hd.isNested = false) : Inv { incref s i with refs := (hd, i) :: s.refs } where
  count j := by
    dsimp only [incref]
    rw [List.countP_cons, ← h.count]
    by_cases hj : j = i
    · simp [hj]
    · simp [hj, Ne.symm hj]
  hosted j := by
    dsimp only [incref]
    by_cases hj : j = i
    · simp [hj, hh]
    · rw [if_neg hj]
      exact h.hosted j
  item c j hm := by
    rcases List.mem_cons.mp hm with he | hm
    · cases he
      cases hn
    · exact h.item c j hm
  shm := h.shm
  exited p j hp hm := by
    rcases List.mem_cons.mp hm with he | hm
    · cases he
      exact canAct_client.mp hc hp
    · exact h.exited p j hp hm

theorem inv_move {s : State} (h : Inv s) {a b : Holder} {i : Nat} (hm : (a, i) ∈ s.refs)
    (hc : canAct s b = true) (hb : ∀ c, b = .item c → s.hosted c = true ∧ s.kind c = .cont) :
    Inv { s with refs := (b, i) :: s.refs.erase (a, i) } where
  count j := by
    rw [h.count, List.countP_cons, ← countP_erase_ref hm j]
    simp
  hosted := h.hosted
  item c j hmem := by
    rcases mem_cons_erase hmem with he | hmem
    · cases he
      exact hb c rfl
    · exact h.item c j hmem
  shm := h.shm
  exited p j hp hmem := by
    rcases mem_cons_erase hmem with he | hmem
    · cases he
      exact canAct_client.mp hc hp
    · exact h.exited p j hp hmem

theorem inv_drop {s : State} (h : Inv s) {hd : Holder} {i : Nat} (hm : (hd, i) ∈ s.refs) :
    Inv (decref { s with refs := s.refs.erase (hd, i) } i) := by
  have hi : (s.refs.erase (hd, i)).countP (fun r => r.2 == i) + 1 = s.rc i := by
    rw [h.count, ← countP_erase_ref hm i, if_pos rfl]
  have hc : ∀ j, j ≠ i → (s.refs.erase (hd, i)).countP (fun r => r.2 == j) = s.rc j := by
    intro j hj
    rw [h.count, ← countP_erase_ref hm j, if_neg (Ne.symm hj)]
    rfl
  have hsub : ∀ {r}, r ∈ s.refs.erase (hd, i) → r ∈ s.refs := List.mem_of_mem_erase
  rcases Nat.lt_or_ge 1 (s.rc i) with hgt | hle
  · rw [decref_of_lt (t := { s with refs := s.refs.erase (hd, i) }) hgt]
    refine ⟨fun j => ?_, fun j => ?_, fun c j hmem => h.item c j (hsub hmem), h.shm,
      fun p j hp hmem => h.exited p j hp (hsub hmem)⟩
    · dsimp only
      by_cases hj : j = i
      · rw [if_pos hj, hj, ← hi]
        rfl
      · rw [if_neg hj, hc j hj]
    · dsimp only
      by_cases hj : j = i
      · rw [if_pos hj, hj]
        exact iff_of_true ((h.hosted i).mpr (Nat.lt_of_succ_lt hgt)) (Nat.sub_pos_of_lt hgt)
      · rw [if_neg hj]
        exact h.hosted j
  · rw [decref_of_le (t := { s with refs := s.refs.erase (hd, i) }) hle]
    refine ⟨fun j => ?_, fun j => ?_, fun c j hmem => ?_, fun j => ?_, fun p j hp hmem =>
      h.exited p j hp (hsub (mem_map_orphan hmem Holder.noConfusion).2)⟩
    · dsimp only
      rw [countP_map_orphan]
      by_cases hj : j = i
      · rw [if_pos hj, hj]
        omega
      · rw [if_neg hj, hc j hj]
    · dsimp only
      by_cases hj : j = i
      · simp [hj]
      · rw [if_neg hj, if_neg hj]
        exact h.hosted j
    · obtain ⟨hne, hmem⟩ := mem_map_orphan hmem Holder.noConfusion
      have hci : c ≠ i := fun hci => hne (congrArg Holder.item hci)
      dsimp only
      rw [if_neg hci]
      exact h.item c j (hsub hmem)
    · dsimp only
      by_cases hj : j = i
      · simp [hj]
      · rw [if_neg hj, if_neg hj]
        exact h.shm j

theorem inv_create {s : State} (h : Inv s) (k : Kind) {i : Nat} (hi : s.hosted i = false) :
    Inv { s with rc := fun j => if j = i then 1 else s.rc j
                 hosted := fun j => if j = i then true else s.hosted j
                 kind := fun j => if j = i then k else s.kind j
                 shm := fun j => if j = i then decide (k = .mem) else s.shm j
                 refs := (.temp, i) :: s.refs } := by
  have hrc : s.rc i = 0 := by
    have := h.hosted i
    rw [hi] at this
    simpa using this
  -- no container is born with contents: `i` holds nothing yet
  have hne : ∀ {c j}, (Holder.item c, j) ∈ s.refs → c ≠ i := fun hm hci =>
    Bool.noConfusion ((hci ▸ (h.item _ _ hm).1).symm.trans hi)
  constructor
  · intro j
    by_cases hj : j = i <;> simp [hj, hrc, ← h.count, Ne.symm]
  · intro j
    by_cases hj : j = i <;> simp [hj, h.hosted]
  · intro c j hm
    have hm := (List.mem_cons.mp hm).resolve_left (by simp)
    simpa [hne hm] using h.item c j hm
  · intro j
    by_cases hj : j = i <;> simp [hj, h.shm]
  · intro p j hp hm
    exact h.exited p j hp ((List.mem_cons.mp hm).resolve_left (by simp))

theorem canAct_of_dstOk {s : State} {dst : Holder} (hd : dstOk s dst = true) :
    canAct s dst = true ∧ dst.isNested = false := by
  cases dst <;> simp_all [dstOk, canAct, Holder.isNested]

theorem inv_step {s s' : State} {a : Act} (h : Inv s) (hs : step s a = some s') : Inv s' := by
  cases a with
  | create k i => exact Core.of_ite_some hs (inv_create h k)
  | manage i => exact Core.of_ite_some hs fun hg => inv_add h hg rfl rfl
  | pickle hd i => exact Core.of_ite_some hs fun hg => inv_add h hg.2.2.2.2 rfl rfl
  | unpickle dst i =>
    refine Core.of_ite_some hs fun ⟨hm, hh, hd⟩ => ?_
    have hmv := inv_move (b := .rebuild) h hm rfl nofun
    exact inv_add hmv hh (canAct_of_dstOk hd).1 (canAct_of_dstOk hd).2
  | drop hd i => exact Core.of_ite_some hs fun hg => inv_drop h hg.1
  | store c i =>
    refine Core.of_ite_some hs fun ⟨hm, hc, hk⟩ => inv_move h hm rfl fun _ he => ?_
    cases he
    exact ⟨hc, hk⟩
  | unstore c i => exact Core.of_ite_some hs fun hm => inv_move h hm rfl nofun
  | fork p q i =>
    exact Core.of_ite_some hs fun hg => inv_add h hg.2.2.2 (canAct_client.mpr (by simp [hg.2.2.1])) rfl
  | call p i => exact Core.of_ite_some hs fun _ => h
  | exitBegin p =>
    refine Core.of_ite_some hs fun _ => ⟨h.count, h.hosted, h.item, h.shm, fun q j hq => ?_⟩
    have hq : (if q = p then PStat.exiting else s.stat q) = .exited := hq
    by_cases hqp : q = p
    · simp [hqp] at hq
    · rw [if_neg hqp] at hq
      exact h.exited q j hq
  | exitEnd p =>
    refine Core.of_ite_some hs fun hg => ⟨h.count, h.hosted, h.item, h.shm, fun q j hq hm => ?_⟩
    have hq : (if q = p then PStat.exited else s.stat q) = .exited := hq
    by_cases hqp : q = p
    · subst hqp
      exact hg.2 _ hm rfl
    · rw [if_neg hqp] at hq
      exact h.exited q j hq hm

def Reachable (s : State) : Prop := Core.Reach step init s

theorem inv_reachable {s : State} (hr : Reachable s) : Inv s :=
  Core.invariant_reach (fun _ _ _ h hs => inv_step h hs) inv_init hr

end Refcount
