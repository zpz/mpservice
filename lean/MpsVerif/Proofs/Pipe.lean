import MpsVerif.Model.Pipe
/-! Lemmas and the invariant of the named-pipe model. -/
namespace Pipe

theorem dec_append (a b : Bytes) : dec (a ++ b) = dec a * 256 ^ b.length + dec b := by
  induction b generalizing a with
  | nil => simp [dec]
  | cons x b ih =>
    have h1 := ih (a ++ [x])
    have h2 := ih [x]
    simp only [List.append_assoc, List.singleton_append] at h1 h2
    have h3 : dec (a ++ [x]) = dec a * 256 + dec [x] := by
      simp only [dec, List.foldl_append, List.foldl_cons, List.foldl_nil, Nat.zero_mul, Nat.zero_add]
    rw [h1, h2, h3, List.length_cons, Nat.pow_succ, Nat.add_mul, Nat.mul_assoc, Nat.mul_comm 256,
      Nat.add_assoc]

theorem dec_four (a b c d : UInt8) :
    dec [a, b, c, d] = ((a.toNat * 256 + b.toNat) * 256 + c.toNat) * 256 + d.toNat := by
  simp only [dec, List.foldl_cons, List.foldl_nil, Nat.zero_mul, Nat.zero_add]

theorem toNat_byte (m : Nat) : (UInt8.ofNat (m % 256)).toNat = m % 256 := by
  rw [UInt8.toNat_ofNat']
  exact Nat.mod_mod _ _

/-- Horner: with `q₁ = n / 256`, `q₂ = q₁ / 256`, `q₃ = q₂ / 256 < 256` the four bytes are
    `q₃, q₂ % 256, q₁ % 256, n % 256`, and `q / 256 * 256 + q % 256 = q` three times. -/
theorem dec_be32 (n : Nat) (h : n < 4294967296) : dec (be32 n) = n := by
  have h2 : n / 65536 = n / 256 / 256 := (Nat.div_div_eq_div_mul n 256 256).symm
  have h3 : n / 16777216 = n / 256 / 256 / 256 := by
    rw [Nat.div_div_eq_div_mul, Nat.div_div_eq_div_mul]
  have h4 : n / 16777216 < 256 := Nat.div_lt_of_lt_mul h
  rw [be32, dec_four, toNat_byte, toNat_byte, toNat_byte, toNat_byte, Nat.mod_eq_of_lt h4, h3, h2,
    Nat.div_add_mod', Nat.div_add_mod', Nat.div_add_mod']

theorem be32_length (n : Nat) : (be32 n).length = 4 := rfl
theorem be64_length (n : Nat) : (be64 n).length = 8 := rfl

theorem dec_be64 (n : Nat) (h : n < 18446744073709551616) : dec (be64 n) = n := by
  have hhi : n / 4294967296 < 4294967296 := Nat.div_lt_of_lt_mul h
  have hlo : n % 4294967296 < 4294967296 := Nat.mod_lt _ (by decide)
  have hp : 256 ^ 4 = 4294967296 := rfl
  rw [be64, dec_append, dec_be32 _ hhi, dec_be32 _ hlo, be32_length, hp]
  exact Nat.div_add_mod' n 4294967296

theorem readN_eq_some {n : Nat} {bs a r : Bytes} :
    readN n bs = some (a, r) ↔ bs = a ++ r ∧ a.length = n := by
  unfold readN
  constructor
  · intro h
    split at h
    · cases h
    · rename_i hl
      simp only [Option.some.injEq, Prod.mk.injEq] at h
      rw [← h.1, ← h.2, List.take_append_drop, List.length_take]
      exact ⟨rfl, Nat.min_eq_left (Nat.le_of_not_lt hl)⟩
  · rintro ⟨rfl, rfl⟩
    rw [if_neg (by simp), List.take_left', List.drop_left']
    all_goals rfl

theorem readN_append (a rest : Bytes) : readN a.length (a ++ rest) = some (a, rest) :=
  readN_eq_some.2 ⟨rfl, rfl⟩

theorem readN_mono {n : Nat} {bs a r : Bytes} (x : Bytes) (h : readN n bs = some (a, r)) :
    readN n (bs ++ x) = some (a, r ++ x) := by
  obtain ⟨rfl, hn⟩ := readN_eq_some.1 h
  exact readN_eq_some.2 ⟨List.append_assoc .., hn⟩

theorem readFrame_mono {bs m r : Bytes} (x : Bytes) (h : readFrame bs = some (m, r)) :
    readFrame (bs ++ x) = some (m, r ++ x) := by
  unfold readFrame at h ⊢
  cases h4 : readN 4 bs with
  | none =>
    rw [h4] at h
    cases h
  | some p =>
    rw [h4] at h
    rw [readN_mono x h4]
    simp only at h ⊢
    split at h
    · rename_i hm
      rw [if_pos hm]
      cases h8 : readN 8 p.2 with
      | none =>
        rw [h8] at h
        cases h
      | some q =>
        rw [h8] at h
        rw [readN_mono x h8]
        exact readN_mono x h
    · rename_i hm
      rw [if_neg hm]
      exact readN_mono x h

theorem readFrame_frame (m rest : Bytes) (hm : m.length < 18446744073709551616) :
    readFrame (frame m ++ rest) = some (m, rest) := by
  unfold frame
  split
  · rename_i hs
    have h4 : readN 4 (be32 m.length ++ m ++ rest) = some (be32 m.length, m ++ rest) :=
      readN_eq_some.2 ⟨List.append_assoc .., rfl⟩
    have hd : dec (be32 m.length) = m.length := dec_be32 _ (by omega)
    have hne : m.length ≠ minusOne := by unfold minusOne; omega
    simp only [readFrame, h4, hd, if_neg hne]
    exact readN_append m rest
  · have h4 : readN 4 (be32 minusOne ++ (be64 m.length ++ m) ++ rest)
        = some (be32 minusOne, be64 m.length ++ (m ++ rest)) :=
      readN_eq_some.2 ⟨by simp only [List.append_assoc], rfl⟩
    have h8 : readN 8 (be64 m.length ++ (m ++ rest)) = some (be64 m.length, m ++ rest) :=
      readN_eq_some.2 ⟨rfl, rfl⟩
    have hd : dec (be32 minusOne) = minusOne := dec_be32 _ (by decide)
    simp only [readFrame, h4, hd, if_true, h8, dec_be64 _ hm]
    exact readN_append m rest

/-- invariant of one FIFO: what is buffered plus what is still being written is exactly the framing of
    the messages sent and not yet received; what was received is a prefix of what was sent -/
structure ChanInv (c : Chan) : Prop where
  bytes : c.fifo ++ c.outbuf = (c.sent.drop c.rcvd.length).flatMap frame
  pref : c.rcvd = c.sent.take c.rcvd.length
  len : ∀ m ∈ c.sent, m.length < 18446744073709551616

theorem ChanInv.le {c : Chan} (h : ChanInv c) : c.rcvd.length ≤ c.sent.length := by
  have := congrArg List.length h.pref
  simp only [List.length_take] at this
  omega

theorem chanInv_empty : ChanInv emptyChan := by
  constructor <;> simp [emptyChan]

theorem chanInv_send {c : Chan} (h : ChanInv c) (m : Bytes) (ho : c.outbuf = [])
    (hm : m.length < 18446744073709551616) :
    ChanInv { c with outbuf := frame m, sent := c.sent ++ [m] } := by
  have hle := h.le
  constructor
  · simp only
    rw [List.drop_append_of_le_length hle, List.flatMap_append, ← h.bytes, ho]
    simp
  · simp only
    rw [List.take_append_of_le_length hle]; exact h.pref
  · intro x hx
    simp only [List.mem_append, List.mem_singleton] at hx
    rcases hx with hx | hx
    · exact h.len x hx
    · subst hx; exact hm

theorem chanInv_flush {c : Chan} (h : ChanInv c) (n : Nat) :
    ChanInv { c with fifo := c.fifo ++ c.outbuf.take (n + 1), outbuf := c.outbuf.drop (n + 1) } := by
  constructor
  · simp only [List.append_assoc, List.take_append_drop]; exact h.bytes
  · exact h.pref
  · exact h.len

theorem ChanInv.unread {c : Chan} (h : ChanInv c) (hlt : c.rcvd.length < c.sent.length) :
    c.fifo ++ c.outbuf =
      frame c.sent[c.rcvd.length] ++ (c.sent.drop (c.rcvd.length + 1)).flatMap frame := by
  rw [h.bytes, List.drop_eq_getElem_cons hlt, List.flatMap_cons]

theorem chanInv_recv {c : Chan} (h : ChanInv c) {m rest : Bytes} (hr : readFrame c.fifo = some (m, rest)) :
    ChanInv { c with fifo := rest, rcvd := c.rcvd ++ [m] } := by
  have hlt : c.rcvd.length < c.sent.length := by
    -- otherwise nothing is buffered
    refine Nat.lt_of_not_le fun hge => ?_
    have hb := h.bytes
    rw [List.drop_eq_nil_of_le hge, List.flatMap_nil] at hb
    rw [(List.append_eq_nil_iff.1 hb).1] at hr
    cases hr
  -- what was read is the next message sent, and what is left is the framing of the later ones
  have h1 := readFrame_mono c.outbuf hr
  rw [h.unread hlt, readFrame_frame _ _ (h.len _ (List.getElem_mem hlt))] at h1
  obtain ⟨hm, htail⟩ := Prod.mk.inj (Option.some.inj h1)
  refine ⟨?_, ?_, h.len⟩
  · show rest ++ c.outbuf = (c.sent.drop (c.rcvd ++ [m]).length).flatMap frame
    rw [List.length_append, List.length_singleton, ← htail]
  · show c.rcvd ++ [m] = c.sent.take (c.rcvd ++ [m]).length
    rw [List.length_append, List.length_singleton, List.take_add_one, ← h.pref,
      List.getElem?_eq_getElem hlt, hm]
    rfl

def Inv (s : State) : Prop := ChanInv s.f1 ∧ ChanInv s.f2

theorem inv_init : Inv init := ⟨chanInv_empty, chanInv_empty⟩

theorem inv_chan {s : State} (h : Inv s) (b : Bool) : ChanInv (s.chan b) := by
  cases b
  · exact h.1
  · exact h.2

theorem inv_setChan {s : State} (h : Inv s) (b : Bool) {c : Chan} (hc : ChanInv c) : Inv (s.setChan b c) := by
  cases b
  · exact ⟨hc, h.2⟩
  · exact ⟨h.1, hc⟩

theorem inv_step (s : State) (a : Act) (s' : State) (h : Inv s) (hs : step s a = some s') : Inv s' := by
  cases a with
  | send r m =>
    simp only [step] at hs
    split at hs
    · rename_i hg
      rw [Bool.and_eq_true, List.isEmpty_iff, decide_eq_true_eq] at hg
      cases hs
      exact inv_setChan h _ (chanInv_send (inv_chan h _) m hg.1 hg.2)
    · cases hs
  | flush r n =>
    simp only [step] at hs
    split at hs
    · cases hs
      exact inv_setChan h _ (chanInv_flush (inv_chan h _) n)
    · cases hs
  | recv r =>
    simp only [step] at hs
    split at hs
    · rename_i m rest hr
      cases hs
      exact inv_setChan h _ (chanInv_recv (inv_chan h _) hr)
    · cases hs

/-- the roles are crossed: an endpoint reads the file its peer writes -/
theorem wpath_peer (r : Role) : wpath (peer r) = rpath r := by
  cases r <;> rfl

def Reachable (s : State) : Prop := Core.Reach step init s

theorem all_reachable {s : State} (hr : Reachable s) : Inv s :=
  Core.invariant_reach (fun s a s' hi hs => inv_step s a s' hi hs) inv_init hr

end Pipe
