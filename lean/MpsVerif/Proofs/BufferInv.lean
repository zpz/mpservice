import MpsVerif.Proofs.BufferStep
/-! Invariants of the `Buffer` model, one layer per writer of the fields it speaks of: the consumer's
    (`ConsInv`), the worker's (`WorkInv`); then what ties the two threads together: the entries of the
    queue (`QueueInv`), where every pulled index is (`FlowInv`), what the consumer was told at the end
    (`ResInv`). -/
namespace Buffer

def wIdx : WPc → List Nat
  | .check i => [i] | .hold i => [i] | _ => []
def cIdx : CPc → List Nat
  | .got i => [i] | _ => []
def qidx : List QItem → List Nat
  | [] => []
  | .item i :: r => i :: qidx r
  | _ :: r => qidx r

def wHold : WPc → Nat
  | .check _ => 1 | .hold _ => 1 | _ => 0
def cHold : CPc → Nat
  | .got _ => 1 | _ => 0
@[simp] theorem wHold_idle : wHold .idle = 0 := rfl
@[simp] theorem wHold_check (i : Nat) : wHold (.check i) = 1 := rfl
@[simp] theorem wHold_hold (i : Nat) : wHold (.hold i) = 1 := rfl
@[simp] theorem wHold_putFin : wHold .putFin = 0 := rfl
@[simp] theorem wHold_putStop : wHold .putStop = 0 := rfl
@[simp] theorem wHold_putExc : wHold .putExc = 0 := rfl
@[simp] theorem wHold_done : wHold .done = 0 := rfl
@[simp] theorem cHold_idle : cHold .idle = 0 := rfl
@[simp] theorem cHold_got (i : Nat) : cHold (.got i) = 1 := rfl
@[simp] theorem cHold_needExc : cHold .needExc = 0 := rfl
@[simp] theorem cHold_susp : cHold .susp = 0 := rfl
@[simp] theorem cHold_stopping : cHold .stopping = 0 := rfl
@[simp] theorem cHold_drain : cHold .drain = 0 := rfl
@[simp] theorem cHold_closed : cHold .closed = 0 := rfl
theorem wHold_le (w : WPc) : wHold w ≤ 1 := by cases w <;> simp only [wHold] <;> omega
theorem cHold_le (p : CPc) : cHold p ≤ 1 := by cases p <;> simp only [cHold] <;> omega
theorem length_wIdx (w : WPc) : (wIdx w).length = wHold w := by cases w <;> rfl
theorem length_cIdx (p : CPc) : (cIdx p).length = cHold p := by cases p <;> rfl

def morePulls : WPc → Nat
  | .idle => 1 | .hold _ => 1 | _ => 0
@[simp] theorem morePulls_idle : morePulls .idle = 1 := rfl
@[simp] theorem morePulls_check (i : Nat) : morePulls (.check i) = 0 := rfl
@[simp] theorem morePulls_hold (i : Nat) : morePulls (.hold i) = 1 := rfl
@[simp] theorem morePulls_putFin : morePulls .putFin = 0 := rfl
@[simp] theorem morePulls_putStop : morePulls .putStop = 0 := rfl
@[simp] theorem morePulls_putExc : morePulls .putExc = 0 := rfl
@[simp] theorem morePulls_done : morePulls .done = 0 := rfl
theorem wHold_morePulls_le (w : WPc) : wHold w + morePulls w ≤ 2 := by
  cases w <;> simp only [wHold, morePulls] <;> omega

@[simp] theorem qidx_append (q r : List QItem) : qidx (q ++ r) = qidx q ++ qidx r := by
  induction q with
  | nil => rfl
  | cons a q ih => cases a <;> simp [qidx, ih]

theorem qidx_length_le (q : List QItem) : (qidx q).length ≤ q.length := by
  induction q with
  | nil => exact Nat.le_refl 0
  | cons a q ih => cases a <;> simp only [qidx, List.length_cons] <;> omega

theorem range'_nil_iff (a n : Nat) : List.range' a n = [] ↔ n = 0 := by
  cases n <;> simp [List.range'_succ]

/-- the consumer is in its normal iteration loop -/
def CPc.iter : CPc → Bool
  | .idle | .got _ | .susp => true
  | _ => false

/-- the consumer still reads the queue for what the worker sends: it has seen neither the end of the
    stream nor a `close` -/
def CPc.reads : CPc → Bool
  | .idle | .got _ | .susp | .needExc => true
  | _ => false

/-- the consumer has not yet set the stop flag -/
def CPc.pre : CPc → Bool
  | .drain | .closed => false
  | _ => true

theorem CPc.reads_of_iter {p : CPc} (h : p.iter = true) : p.reads = true := by
  cases p <;> first | rfl | cases h

theorem CPc.pre_of_reads {p : CPc} (h : p.reads = true) : p.pre = true := by
  cases p <;> first | rfl | cases h

/-- The flag is the consumer's; `raised`, `ended`, `closeReq` record why it left the loop. -/
structure ConsInv (s : State) : Prop where
  flag_eq : s.flag = !s.cpc.pre
  reading : s.cpc.reads = true → s.raised = false ∧ s.ended = false ∧ s.closeReq = false
  reason : s.cpc.reads = false → s.raised = true ∨ s.ended = true ∨ s.closeReq = true

theorem cons_init : ConsInv init := ⟨rfl, fun _ => ⟨rfl, rfl, rfl⟩, nofun⟩

theorem cons_step {c : Cfg} {s s' : State} {a : Act} (h : ConsInv s) (hs : Step c s a s') :
    ConsInv s' := by
  obtain ⟨h1, h2, h3⟩ := h
  cases hs with
  | pull | srcEnd | srcRaise | wcheck | stopSeen | put | putFin | putStop | putExc | drainPop =>
    exact ⟨h1, h2, h3⟩
  | getItem hc | getStop hc | yld hc | next hc =>
    rw [hc] at h1 h2
    exact ⟨h1, fun _ => h2 rfl, nofun⟩
  | getFin hc =>
    rw [hc] at h1
    exact ⟨h1, nofun, fun _ => .inr (.inl rfl)⟩
  | getExc hc =>
    rw [hc] at h1
    exact ⟨h1, nofun, fun _ => .inl rfl⟩
  | close hc =>
    rw [hc] at h1
    exact ⟨h1, nofun, fun _ => .inr (.inr rfl)⟩
  | setFlag hc => exact ⟨rfl, nofun, fun _ => h3 (hc ▸ rfl)⟩
  | joined hc =>
    rw [hc] at h1
    exact ⟨h1, nofun, fun _ => h3 (hc ▸ rfl)⟩

theorem ConsInv.flag_false {s : State} (h : ConsInv s) (hr : s.cpc.reads = true) : s.flag = false := by
  rw [h.flag_eq, CPc.pre_of_reads hr]
  rfl

/-- The worker leaves its loop at the end of the source, which tells how the source ends, or because it
    saw the stop flag. -/
structure WorkInv (c : Cfg) (s : State) : Prop where
  pulled_le : s.pulled ≤ c.n
  failing : s.wpc = .putStop ∨ s.wpc = .putExc → s.pulled = c.n ∧ c.srcEnd = .exc
  finishing : s.wpc = .putFin → (s.pulled = c.n ∧ c.srcEnd = .clean) ∨ s.flag = true
  exited : s.wpc = .done → s.pulled = c.n ∨ s.flag = true

theorem work_init (c : Cfg) : WorkInv c init := ⟨Nat.zero_le _, nofun, nofun, nofun⟩

theorem work_step {c : Cfg} {s s' : State} {a : Act} (h : WorkInv c s) (hs : Step c s a s') :
    WorkInv c s' := by
  obtain ⟨h1, h2, h3, h4⟩ := h
  cases hs with
  | pull hf hn => exact ⟨hn, nofun, nofun, nofun⟩
  | wcheck | put => exact ⟨h1, nofun, nofun, nofun⟩
  | srcEnd hf hn hc => exact ⟨h1, nofun, fun _ => .inl ⟨hn, hc⟩, nofun⟩
  | srcRaise hf hn hc => exact ⟨h1, fun _ => ⟨hn, hc⟩, nofun, nofun⟩
  | stopSeen hf ht => exact ⟨h1, nofun, fun _ => .inr ht, nofun⟩
  | putFin hf => exact ⟨h1, nofun, nofun, fun _ => (h3 hf).imp_left And.left⟩
  | putStop hf => exact ⟨h1, fun _ => h2 (.inl hf), nofun, nofun⟩
  | putExc hf => exact ⟨h1, nofun, nofun, fun _ => .inl (h2 (.inr hf)).1⟩
  | setFlag => exact ⟨h1, h2, fun _ => .inr rfl, fun _ => .inr rfl⟩
  | getItem | getFin | getStop | getExc | yld | next | close | drainPop | joined => exact ⟨h1, h2, h3, h4⟩

/-- the consumer joins the worker thread before it returns -/
theorem clean_step {c : Cfg} {s s' : State} {a : Act} (h : s.cpc = .closed → s.wpc = .done)
    (hs : Step c s a s') : s'.cpc = .closed → s'.wpc = .done := by
  cases hs with
  | pull hf | srcEnd hf | srcRaise hf | wcheck hf | stopSeen hf | put hf | putFin hf | putStop hf | putExc hf =>
    exact fun hcl => nomatch hf.symm.trans (h hcl)
  | getItem | getFin | getStop | getExc | yld | next | close | setFlag => nofun
  | drainPop => exact h
  | joined hc hw => exact fun _ => hw

/-- classification of the queue content: `0` items only, `1` items then FINISHED, `2` items then
    STOPPED, `3` items then STOPPED and the exception object, `4` the exception object alone,
    `9` anything else -/
def shape : List QItem → Nat
  | [] => 0
  | .item _ :: r => if shape r = 4 ∨ shape r = 9 then 9 else shape r
  | [.fin] => 1
  | [.stopMark] => 2
  | [.stopMark, .excObj] => 3
  | [.excObj] => 4
  | _ => 9

theorem shape_cases (q : List QItem) : shape q = 0 ∨ shape q = 1 ∨ shape q = 2 ∨ shape q = 3 ∨ shape q = 4 ∨ shape q = 9 := by
  induction q with
  | nil => exact .inl rfl
  | cons a q ih =>
    cases a with
    | item i =>
      simp only [shape]
      split
      · simp
      · exact ih
    | fin => cases q <;> simp [shape]
    | stopMark =>
      cases q with
      | nil => simp [shape]
      | cons b r => cases b <;> cases r <;> simp [shape]
    | excObj => cases q <;> simp [shape]

theorem shape_item_cons {i : Nat} {r : List QItem} (h : shape r ≤ 3) : shape (.item i :: r) = shape r := by
  simp only [shape]
  exact if_neg (by omega)

theorem shape_item_tail {i : Nat} {r : List QItem} {k : Nat} (h : shape (.item i :: r) = k) (hk : k ≤ 3) :
    shape r = k := by
  simp only [shape] at h
  split at h
  · omega
  · exact h

theorem shape_fin_tail {r : List QItem} {k : Nat} (h : shape (.fin :: r) = k) (hk : k ≤ 3) :
    r = [] ∧ k = 1 := by
  cases r with
  | nil => exact ⟨rfl, h.symm⟩
  | cons b r =>
    simp only [shape] at h
    omega

theorem shape_stop_tail {r : List QItem} {k : Nat} (h : shape (.stopMark :: r) = k) (hk : k ≤ 3) :
    (r = [] ∧ k = 2) ∨ (r = [.excObj] ∧ k = 3) := by
  cases r with
  | nil => exact .inl ⟨rfl, h.symm⟩
  | cons b r =>
    cases b <;> cases r <;> simp only [shape] at h <;> try omega
    exact .inr ⟨rfl, h.symm⟩

theorem shape_exc_head {r : List QItem} {k : Nat} (h : shape (.excObj :: r) = k) (hk : k ≤ 3) : False := by
  cases r <;> simp only [shape] at h <;> omega

theorem shape_append_of_zero {q : List QItem} (r : List QItem) (h : shape q = 0) (hr : shape r ≤ 3) :
    shape (q ++ r) = shape r := by
  induction q with
  | nil => rfl
  | cons a q ih =>
    rw [List.cons_append]
    cases a with
    | item i =>
      have := ih (shape_item_tail h (by omega))
      exact (shape_item_cons (by omega)).trans this
    | fin =>
      have := shape_fin_tail h (by omega)
      omega
    | stopMark =>
      have := shape_stop_tail h (by omega)
      omega
    | excObj => exact (shape_exc_head h (by omega)).elim

theorem shape_snoc_exc (q : List QItem) (h : shape q = 2) : shape (q ++ [.excObj]) = 3 := by
  induction q with
  | nil => cases h
  | cons a q ih =>
    rw [List.cons_append]
    cases a with
    | item i =>
      have := ih (shape_item_tail h (by omega))
      exact (shape_item_cons (by omega)).trans this
    | fin =>
      have := shape_fin_tail h (by omega)
      omega
    | stopMark =>
      rcases shape_stop_tail h (by omega) with ⟨rfl, _⟩ | ⟨_, h3⟩
      · rfl
      · omega
    | excObj => exact (shape_exc_head h (by omega)).elim

/-- queue shape expected while the consumer reads, from how the source ends and where the worker is -/
def expShape : SrcEnd → WPc → Nat
  | _, .putExc => 2
  | .clean, .done => 1
  | .exc, .done => 3
  | _, _ => 0

theorem expShape_le (e : SrcEnd) (w : WPc) : expShape e w ≤ 3 := by
  cases e <;> cases w <;> simp [expShape]

theorem expShape_done_pos (e : SrcEnd) : 0 < expShape e .done := by
  cases e <;> simp [expShape]

theorem expShape_eq_one {e : SrcEnd} {w : WPc} (h : expShape e w = 1) : w = .done ∧ e = .clean := by
  cases e <;> cases w <;> simp [expShape] at h ⊢

theorem expShape_eq_two {e : SrcEnd} {w : WPc} (h : expShape e w = 2) : w = .putExc := by
  cases e <;> cases w <;> simp [expShape] at h ⊢

theorem expShape_eq_three {e : SrcEnd} {w : WPc} (h : expShape e w = 3) : w = .done ∧ e = .exc := by
  cases e <;> cases w <;> simp [expShape] at h ⊢

/-- the `STOPPED` mark the consumer has taken off the queue, while it waits for the exception object -/
def seen : CPc → List QItem
  | .needExc => [.stopMark]
  | _ => []

/-- While the consumer reads the queue, the entries it has before it are what the worker has put
    since the last element: elements, then the end marks up to where the worker is. -/
def QueueInv (c : Cfg) (s : State) : Prop :=
  s.cpc.reads = true → shape (seen s.cpc ++ s.queue) = expShape c.srcEnd s.wpc

theorem QueueInv.of_idle {c : Cfg} {s : State} (h : QueueInv c s) (hc : s.cpc = .idle) :
    shape s.queue = expShape c.srcEnd s.wpc := by
  have := h (hc ▸ rfl)
  rwa [hc] at this

theorem QueueInv.of_needExc {c : Cfg} {s : State} (h : QueueInv c s) (hc : s.cpc = .needExc) :
    shape (.stopMark :: s.queue) = expShape c.srcEnd s.wpc := by
  have := h (hc ▸ rfl)
  rwa [hc] at this

theorem queue_init (c : Cfg) : QueueInv c init := fun _ => rfl

theorem queue_step {c : Cfg} {s s' : State} {a : Act} (hcons : ConsInv s) (hw : WorkInv c s)
    (h : QueueInv c s) (hs : Step c s a s') : QueueInv c s' := by
  unfold QueueInv at h ⊢
  cases hs with
  | pull hf | srcEnd hf | srcRaise hf | wcheck hf =>
    rw [hf] at h
    exact h
  | stopSeen hf ht => exact fun hr => nomatch ht.symm.trans (hcons.flag_false hr)
  | put hf =>
    rw [hf] at h
    exact fun hr => (List.append_assoc ..).symm ▸ shape_append_of_zero [.item _] (h hr) (Nat.zero_le 3)
  | putStop hf =>
    rw [hf] at h
    exact fun hr => (List.append_assoc ..).symm ▸ shape_append_of_zero [.stopMark] (h hr) (by decide)
  | putFin hf =>
    intro hr
    have hcl : c.srcEnd = .clean := by
      rcases hw.finishing hf with h | h
      · exact h.2
      · exact nomatch h.symm.trans (hcons.flag_false hr)
    rw [hf] at h
    rw [hcl]
    exact (List.append_assoc ..).symm ▸ shape_append_of_zero [.fin] (h hr) (by decide)
  | putExc hf =>
    intro hr
    rw [hf] at h
    rw [(hw.failing (.inr hf)).2]
    exact (List.append_assoc ..).symm ▸ shape_snoc_exc _ (h hr)
  | getItem hc hq =>
    rw [hc, hq] at h
    exact fun _ => shape_item_tail (h rfl) (expShape_le ..)
  | getStop hc hq =>
    rw [hc, hq] at h
    exact fun _ => h rfl
  | yld hc | next hc =>
    rw [hc] at h
    exact fun _ => h rfl
  | getFin | getExc | close | setFlag | joined => nofun
  | drainPop hc => exact fun hr => nomatch hc ▸ hr

/-- Until the consumer sets the stop flag, the indices pulled so far are, in order: those yielded,
    the one in the consumer's hand, those in the queue, the one in the worker's hand.  From then on
    `out` stays and the worker pulls at most once more (C08). -/
structure FlowInv (c : Cfg) (s : State) : Prop where
  room : s.queue.length ≤ c.maxsize
  flowing : s.cpc.pre = true → List.range s.pulled = s.out ++ cIdx s.cpc ++ qidx s.queue ++ wIdx s.wpc
  draining : s.cpc.pre = false →
    s.out <+: List.range s.pulled ∧ s.pulled + morePulls s.wpc ≤ s.out.length + c.maxsize + 2

theorem flow_init (c : Cfg) : FlowInv c init := ⟨Nat.zero_le _, fun _ => rfl, nofun⟩

theorem FlowInv.pulled_eq {c : Cfg} {s : State} (h : FlowInv c s) (hp : s.cpc.pre = true) :
    s.pulled = s.out.length + cHold s.cpc + (qidx s.queue).length + wHold s.wpc := by
  have := congrArg List.length (h.flowing hp)
  simpa only [List.length_range, List.length_append, length_cIdx, length_wIdx] using this

theorem FlowInv.out_prefix {c : Cfg} {s : State} (h : FlowInv c s) : s.out <+: List.range s.pulled := by
  cases hp : s.cpc.pre with
  | true =>
    rw [h.flowing hp]
    simp only [List.append_assoc, List.prefix_append]
  | false => exact (h.draining hp).1

theorem flow_step {c : Cfg} {s s' : State} {a : Act} (hcons : ConsInv s) (h : FlowInv c s)
    (hs : Step c s a s') : FlowInv c s' := by
  have ⟨hq, h1, h2⟩ := h
  cases hs with
  | pull hf hn =>
    rw [hf] at h1 h2
    refine ⟨hq, fun hp => ?_, fun hp => ?_⟩
    · rw [List.range_succ, h1 hp]
      simp only [wIdx, List.append_nil]
    · obtain ⟨hpre, hle⟩ := h2 hp
      refine ⟨List.range_succ ▸ List.prefix_append_of_prefix hpre, ?_⟩
      simp only [morePulls_idle, morePulls_check] at hle ⊢
      omega
  | srcEnd hf | srcRaise hf =>
    rw [hf] at h1 h2
    exact ⟨hq, h1, fun hp => ⟨(h2 hp).1, Nat.le_of_succ_le (h2 hp).2⟩⟩
  | wcheck hf ht =>
    rw [hf] at h1
    refine ⟨hq, h1, fun hp => ?_⟩
    -- the worker has just read the flag as unset
    rw [hcons.flag_eq, hp] at ht
    cases ht
  | stopSeen hf ht =>
    rw [hf] at h2
    refine ⟨hq, fun hp => ?_, h2⟩
    rw [hcons.flag_eq, hp] at ht
    cases ht
  | put hf hl | putFin hf hl | putStop hf hl | putExc hf hl =>
    rw [hf] at h1 h2
    refine ⟨?_, fun hp => ?_, h2⟩
    · rw [List.length_append]
      exact hl
    · rw [h1 hp]
      simp only [wIdx, qidx_append, qidx, List.append_nil, List.append_assoc]
  | getItem hc hq' =>
    rw [hc, hq'] at h1
    rw [hq'] at hq
    refine ⟨Nat.le_of_succ_le hq, fun _ => ?_, nofun⟩
    rw [h1 rfl]
    simp only [cIdx, qidx, List.append_nil, List.append_assoc, List.cons_append, List.nil_append]
  | getFin hc hq' | getStop hc hq' | getExc hc hq' =>
    rw [hc, hq'] at h1
    rw [hq'] at hq
    exact ⟨Nat.le_of_succ_le hq, fun _ => h1 rfl, nofun⟩
  | yld hc =>
    rw [hc] at h1
    refine ⟨hq, fun _ => ?_, nofun⟩
    rw [h1 rfl]
    simp only [cIdx, List.append_nil, List.append_assoc]
  | next hc | close hc =>
    rw [hc] at h1
    exact ⟨hq, fun _ => h1 rfl, nofun⟩
  | setFlag hc =>
    refine ⟨hq, nofun, fun _ => ⟨h.out_prefix, ?_⟩⟩
    -- where `maxsize + 2` comes from: the queue, the worker's hand and its next pull
    have hlen := h.pulled_eq (hc ▸ rfl)
    rw [hc, cHold_stopping] at hlen
    have := qidx_length_le s.queue
    have := wHold_morePulls_le s.wpc
    show s.pulled + morePulls s.wpc ≤ s.out.length + c.maxsize + 2
    omega
  | drainPop hc hq' =>
    rw [hc] at h2
    rw [hq'] at hq
    exact ⟨Nat.le_of_succ_le hq, fun hp => (nomatch hc ▸ hp), fun _ => h2 rfl⟩
  | joined hc =>
    rw [hc] at h2
    exact ⟨hq, nofun, fun _ => h2 rfl⟩

theorem FlowInv.pulled_le {c : Cfg} {s : State} (h : FlowInv c s) :
    s.pulled ≤ s.out.length + c.maxsize + 2 := by
  cases hp : s.cpc.pre with
  | true =>
    have := h.pulled_eq hp
    have := h.room
    have := qidx_length_le s.queue
    have := wHold_le s.wpc
    have := cHold_le s.cpc
    omega
  | false => exact Nat.le_of_add_right_le (h.draining hp).2

theorem FlowInv.out_eq_range {c : Cfg} {s : State} (h : FlowInv c s) :
    s.out = List.range s.out.length := by
  have hp := h.out_prefix
  have hle := hp.length_le
  rw [List.length_range] at hle
  have := List.prefix_iff_eq_take.mp hp
  rwa [List.take_range, Nat.min_eq_left hle] at this

/-- what the consumer was told at the end is true of the source (C05) -/
structure ResInv (c : Cfg) (s : State) : Prop where
  raised : s.raised = true → s.out.length = c.n ∧ c.srcEnd = .exc
  ended : s.ended = true → s.out.length = c.n ∧ c.srcEnd = .clean

theorem res_init (c : Cfg) : ResInv c init := ⟨nofun, nofun⟩

/-- With nothing left between the source and `out` and the worker done before any stop flag, every
    element of the source has been yielded. -/
theorem out_length_of_done {c : Cfg} {s : State} (hcons : ConsInv s) (hw : WorkInv c s)
    (hfl : FlowInv c s) (hr : s.cpc.reads = true) (hc : cHold s.cpc = 0) (hq : qidx s.queue = [])
    (hd : s.wpc = .done) : s.out.length = c.n := by
  have hp := hfl.pulled_eq (CPc.pre_of_reads hr)
  rw [hc, hq, hd] at hp
  rcases hw.exited hd with hn | hf
  · exact hp.symm.trans hn
  · exact nomatch hf.symm.trans (hcons.flag_false hr)

theorem res_step {c : Cfg} {s s' : State} {a : Act} (hcons : ConsInv s) (hw : WorkInv c s)
    (hqu : QueueInv c s) (hfl : FlowInv c s) (h : ResInv c s) (hs : Step c s a s') : ResInv c s' := by
  cases hs with
  | getFin hc hq =>
    have hr : s.cpc.reads = true := hc ▸ rfl
    obtain ⟨rfl, h1⟩ := shape_fin_tail (hq ▸ hqu.of_idle hc) (expShape_le ..)
    obtain ⟨hd, hcl⟩ := expShape_eq_one h1
    have hn := out_length_of_done hcons hw hfl hr (hc ▸ rfl) (hq ▸ rfl) hd
    exact ⟨h.raised, fun _ => ⟨hn, hcl⟩⟩
  | getExc hc hq =>
    have hr : s.cpc.reads = true := hc ▸ rfl
    rcases shape_stop_tail (hq ▸ hqu.of_needExc hc) (expShape_le ..) with ⟨h0, _⟩ | ⟨h1, h3⟩
    · cases h0
    · cases h1
      obtain ⟨hd, hex⟩ := expShape_eq_three h3
      have hn := out_length_of_done hcons hw hfl hr (hc ▸ rfl) (hq ▸ rfl) hd
      exact ⟨fun _ => ⟨hn, hex⟩, h.ended⟩
  | yld hc =>
    obtain ⟨hra, hen, _⟩ := hcons.reading (hc ▸ rfl)
    exact ⟨fun hr => (nomatch hr.symm.trans hra), fun he => (nomatch he.symm.trans hen)⟩
  | pull | srcEnd | srcRaise | wcheck | stopSeen | put | putFin | putStop | putExc | getItem | getStop
  | next | close | setFlag | drainPop | joined => exact ⟨h.raised, h.ended⟩

structure AllInv (c : Cfg) (s : State) : Prop where
  cons : ConsInv s
  work : WorkInv c s
  clean : s.cpc = .closed → s.wpc = .done
  queue : QueueInv c s
  flow : FlowInv c s
  res : ResInv c s

theorem all_init (c : Cfg) : AllInv c init :=
  ⟨cons_init, work_init c, nofun, queue_init c, flow_init c, res_init c⟩

theorem all_step {c : Cfg} {s s' : State} {a : Act} (h : AllInv c s) (hs : Step c s a s') :
    AllInv c s' :=
  ⟨cons_step h.cons hs, work_step h.work hs, clean_step h.clean hs, queue_step h.cons h.work h.queue hs,
   flow_step h.cons h.flow hs, res_step h.cons h.work h.queue h.flow h.res hs⟩

theorem all_reachable (c : Cfg) {s : State} (hr : Reachable c s) : AllInv c s :=
  reachable_inv c (all_init c) all_step hr

end Buffer
