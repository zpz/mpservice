import MpsVerif.Proofs.IterQueueCount
/-!
# Bounded waits of `ResponsiveQueue`: the timing invariant of the model, and one timed call

For every actor inside a blocking `get/put`: the current bounded wait started at `tw ≤ now`, has not
overrun (`now ≤ tw + w`, by the urgency of `tick`), and either it is the first wait of the operation
(`tw = t0`) or it was started by a retry, which only happens while no stop is requested
(`stop = some ts → tw ≤ ts`).  An actor is `stopped` only if a stop was requested.
-/
namespace IterQueue

structure WaitOk (w now : Nat) (stop : Option Nat) (t0 tw : Nat) : Prop where
  h1 : t0 ≤ tw
  h2 : tw ≤ now
  h3 : now ≤ tw + w
  h4 : tw = t0 ∨ ∀ ts, stop = some ts → tw ≤ ts

theorem WaitOk.fresh (w now : Nat) (stop : Option Nat) : WaitOk w now stop now now :=
  ⟨Nat.le_refl _, Nat.le_refl _, Nat.le_add_right _ _, Or.inl rfl⟩

theorem WaitOk.retry {w now t0 tw : Nat} {stop : Option Nat} (ho : WaitOk w now stop t0 tw) (hstop : stop = none) :
    WaitOk w now stop t0 now :=
  ⟨Nat.le_trans ho.h1 ho.h2, Nat.le_refl _, Nat.le_add_right _ _, Or.inr fun ts hts => by rw [hstop] at hts; cases hts⟩

theorem WaitOk.setStop {w now t0 tw : Nat} {stop : Option Nat} (ho : WaitOk w now stop t0 tw) :
    WaitOk w now (some now) t0 tw :=
  ⟨ho.h1, ho.h2, ho.h3, Or.inr fun ts hts => by cases hts; exact ho.h2⟩

theorem WaitOk.tick {w now t0 tw : Nat} {stop : Option Nat} (ho : WaitOk w now stop t0 tw) (h : now < tw + w) :
    WaitOk w (now + 1) stop t0 tw :=
  ⟨ho.h1, Nat.le_succ_of_le ho.h2, h, ho.h4⟩

def SPc.isStopped : SPc → Bool
  | .stoppedP | .stoppedE => true
  | _ => false

/-- the clause for one actor, over what it reads of it: suppliers, consumers and `renew` share it -/
structure ActorOk (w now : Nat) (stop : Option Nat) (waiting stopped : Bool) (t0 tw : Nat) : Prop where
  wait : waiting = true → WaitOk w now stop t0 tw
  stopReq : stopped = true → stop ≠ none

section Actor
variable {w now t0 tw : Nat} {stop : Option Nat} {wt st : Bool}

theorem ActorOk.idle : ActorOk w now stop false false t0 tw := ⟨nofun, nofun⟩

theorem ActorOk.fresh : ActorOk w now stop true false now now := ⟨fun _ => WaitOk.fresh _ _ _, nofun⟩

theorem ActorOk.retry (h : ActorOk w now stop wt st t0 tw) (hstop : stop = none) : ActorOk w now stop wt st t0 now :=
  ⟨fun hw => (h.wait hw).retry hstop, h.stopReq⟩

theorem ActorOk.gaveUp (hstop : stop ≠ none) : ActorOk w now stop false true t0 tw := ⟨nofun, fun _ => hstop⟩

theorem ActorOk.setStop (h : ActorOk w now stop wt st t0 tw) : ActorOk w now (some now) wt st t0 tw :=
  ⟨fun hw => (h.wait hw).setStop, fun _ => nofun⟩

theorem ActorOk.tick (h : ActorOk w now stop wt st t0 tw) (hd : (!wt || decide (now < tw + w)) = true) :
    ActorOk w (now + 1) stop wt st t0 tw := by
  refine ⟨fun hw => (h.wait hw).tick ?_, h.stopReq⟩
  rw [hw] at hd
  exact of_decide_eq_true hd

end Actor

/-- the timing invariant, as a statement about the fields it reads -/
structure Waits (w now : Nat) (stop : Option Nat) (sups : List Sup) (cons : List Con) (rpc : RPc)
    (rt0 rtw : Nat) : Prop where
  stopLe : ∀ ts, stop = some ts → ts ≤ now
  sup : ∀ a ∈ sups, ActorOk w now stop a.pc.waiting a.pc.isStopped a.t0 a.tw
  con : ∀ a ∈ cons, ActorOk w now stop a.pc.waiting a.pc.isStopped a.t0 a.tw
  ren : ActorOk w now stop (rpc == .get) (rpc == .stopped) rt0 rtw

abbrev TInv (c : Cfg) (s : State) : Prop := Waits c.w s.now s.stop s.sups s.cons s.rpc s.rt0 s.rtw

section Waits
variable {w now rt0 rtw : Nat} {stop : Option Nat} {sups : List Sup} {cons : List Con} {rpc : RPc}

theorem Waits.setC (hi : Waits w now stop sups cons rpc rt0 rtw) {j : Nat} {b : Con}
    (hb : ActorOk w now stop b.pc.waiting b.pc.isStopped b.t0 b.tw) :
    Waits w now stop sups (cons.set j b) rpc rt0 rtw :=
  { hi with con := fun a ha => (List.mem_or_eq_of_mem_set ha).elim (hi.con a) (fun e => e ▸ hb) }

theorem Waits.setS (hi : Waits w now stop sups cons rpc rt0 rtw) {i : Nat} {b : Sup}
    (hb : ActorOk w now stop b.pc.waiting b.pc.isStopped b.t0 b.tw) :
    Waits w now stop (sups.set i b) cons rpc rt0 rtw :=
  { hi with sup := fun a ha => (List.mem_or_eq_of_mem_set ha).elim (hi.sup a) (fun e => e ▸ hb) }

theorem Waits.fresh {m n : Nat} (hst : ∀ ts, stop = some ts → ts ≤ now) :
    Waits w now stop (List.replicate m freshSup) (List.replicate n freshCon) .off rt0 rtw :=
  ⟨hst, fun _ ha => List.eq_of_mem_replicate ha ▸ .idle, fun _ ha => List.eq_of_mem_replicate ha ▸ .idle, .idle⟩

end Waits

theorem tinv_step {c : Cfg} {s s' : State} {a : Act} (hi : TInv c s) (hs : Step c s a s') : TInv c s' := by
  cases hs with
  | sPutBeg | sApply => exact hi.setS .fresh
  | sPut | sEndBeg | sMark => exact hi.setS .idle
  | sRetry i a h hw hroom hdue hstop => exact hi.setS ((hi.sup a (List.mem_of_getElem? h)).retry hstop)
  | sStop i a h hw hroom hdue hstop =>
    refine hi.setS ?_
    dsimp only
    split <;> exact .gaveUp hstop
  | cChk1Go | cChk2Full | cUnlockLast => exact hi.setC .fresh
  | cChk1Full | cGetItem | cGetMark | cChk2Go | cReput | cLock | cTake | cGive | cTest
  | cUnlockGo | cExtra => exact hi.setC .idle
  | cRetry j a h hw hb hdue hstop => exact hi.setC ((hi.con a (List.mem_of_getElem? h)).retry hstop)
  | cStop j a h hw hb hdue hstop => exact hi.setC (.gaveUp hstop)
  | rStartOk => exact { hi with ren := .fresh }
  | rStartFail | rGetItem => exact { hi with ren := .idle }
  | rGetMark => exact .fresh hi.stopLe
  | rRetry hr hq hdue hstop => exact { hi with ren := hi.ren.retry hstop }
  | rStop hr hq hdue hstop => exact { hi with ren := .gaveUp hstop }
  | setStop hstop =>
    exact ⟨fun ts hts => by cases hts; exact Nat.le_refl _, fun a ha => (hi.sup a ha).setStop,
      fun a ha => (hi.con a ha).setStop, hi.ren.setStop⟩
  | tick hnd =>
    obtain ⟨hSC, hR⟩ := (Bool.and_eq_true _ _).mp hnd
    obtain ⟨hS, hC⟩ := (Bool.and_eq_true _ _).mp hSC
    exact ⟨fun ts hts => Nat.le_succ_of_le (hi.stopLe ts hts),
      fun a ha => (hi.sup a ha).tick (List.all_eq_true.mp hS a ha),
      fun a ha => (hi.con a ha).tick (List.all_eq_true.mp hC a ha), hi.ren.tick hR⟩

theorem noneDue_of_con {c : Cfg} {s : State} {a : Con} (ha : a ∈ s.cons) (hw : a.pc.waiting = true)
    (hdue : a.tw + c.w ≤ s.now) : noneDue c s = false := by
  have : s.cons.all (fun a => !a.pc.waiting || decide (s.now < a.tw + c.w)) = false :=
    List.all_eq_false.mpr ⟨a, ha, by rw [hw, decide_eq_false (Nat.not_lt.mpr hdue)]; nofun⟩
  rw [noneDue, this, Bool.and_false, Bool.false_and]

theorem noneDue_of_sup {c : Cfg} {s : State} {a : Sup} (ha : a ∈ s.sups) (hw : a.pc.waiting = true)
    (hdue : a.tw + c.w ≤ s.now) : noneDue c s = false := by
  have : s.sups.all (fun a => !a.pc.waiting || decide (s.now < a.tw + c.w)) = false :=
    List.all_eq_false.mpr ⟨a, ha, by rw [hw, decide_eq_false (Nat.not_lt.mpr hdue)]; nofun⟩
  rw [noneDue, this, Bool.false_and, Bool.false_and]

theorem tinv_init (c : Cfg) : TInv c (init c) := .fresh nofun

theorem tinv_reachable {c : Cfg} {s : State} (hr : Reachable c s) : TInv c s :=
  reachable_inv (tinv_init c) (fun _ _ _ hi hs => tinv_step hi hs) hr

theorem nextPoll_bounds (w : Nat) {T : Option Nat} {t : Nat} (hT : ∀ T0, T = some T0 → t ≤ T0) :
    t ≤ nextPoll w T t ∧ nextPoll w T t ≤ t + w ∧ (∀ T0, T = some T0 → nextPoll w T t ≤ T0) := by
  cases T with
  | none => simp [nextPoll]
  | some T0 =>
    have := hT T0 rfl
    simp only [nextPoll]
    refine ⟨by omega, by omega, ?_⟩
    intro T1 h1; cases h1; omega

theorem expired_eq {T : Option Nat} {p : Nat} (h : expired T p = true) (hle : ∀ T0, T = some T0 → p ≤ T0) :
    T = some p := by
  cases T with
  | none => simp [expired] at h
  | some T0 => simp [expired] at h; have := hle T0 rfl; congr; omega

theorem nextPoll_full {w : Nat} {T : Option Nat} {t : Nat} (h : expired T (nextPoll w T t) = false) :
    nextPoll w T t = t + w := by
  cases T with
  | none => rfl
  | some T0 =>
    simp only [expired, nextPoll] at h ⊢
    have := of_decide_eq_false h
    omega

theorem rescued_eq {r : Option Nat} {p : Nat} (h : rescued r p = true) : ∃ r0, r = some r0 ∧ r0 ≤ p := by
  cases r with
  | none => simp [rescued] at h
  | some r0 => simp [rescued] at h; exact ⟨r0, rfl, h⟩

theorem stopSeen_true {s : Option Nat} {tie : Bool} {p : Nat} (h : stopSeen s tie p = true) :
    ∃ s0, s = some s0 ∧ s0 ≤ p := by
  cases s with
  | none => simp [stopSeen] at h
  | some s0 => simp [stopSeen] at h; exact ⟨s0, rfl, by omega⟩

theorem stopSeen_false {s0 : Nat} {tie : Bool} {p : Nat} (h : stopSeen (some s0) tie p = false) : p ≤ s0 := by
  simp [stopSeen] at h; omega

/-- Invariant of the loop: when a bounded wait starts at `t`, the stop request (if any) was not
    visible at `t`, i.e. `t ≤ s0`.  Then whatever way the call ends, it ends by `s0 + w`; it ends with
    `StopRequested` only at a clock in `[s0, s0 + w]`, with `Full/Empty` only at its own timeout, and
    successfully only at `r`. -/
theorem timedCall_spec (w : Nat) (T s : Option Nat) (tie : Bool) (r : Option Nat) :
    ∀ (fuel t : Nat), (∀ s0, s = some s0 → t ≤ s0) → (∀ T0, T = some T0 → t ≤ T0) →
      (∀ u, timedCall w T s tie r fuel t = .stop u → ∃ s0, s = some s0 ∧ s0 ≤ u ∧ u ≤ s0 + w) ∧
      (∀ u, timedCall w T s tie r fuel t = .expire u → T = some u) ∧
      (∀ u, timedCall w T s tie r fuel t = .ok u → r = some u) ∧
      (∀ s0, s = some s0 → timedCall w T s tie r fuel t ≠ .running →
          (timedCall w T s tie r fuel t).time ≤ s0 + w) := by
  intro fuel
  induction fuel with
  | zero => intro t _ _; simp [timedCall]
  | succ fuel ih =>
    intro t hs hT
    obtain ⟨h1, h2, h3⟩ := nextPoll_bounds w hT
    simp only [timedCall]
    cases hres : rescued r (nextPoll w T t) with
    | true =>
      obtain ⟨r0, hr0, hle⟩ := rescued_eq hres
      simp only [if_true, hr0, Option.getD_some]
      refine ⟨(by intro u h; cases h), (by intro u h; cases h), (by intro u h; cases h; rfl), ?_⟩
      intro s0 hs0 _; have := hs s0 hs0; simp only [CallEnd.time]; omega
    | false =>
      simp only [Bool.false_eq_true, if_false]
      cases hex : expired T (nextPoll w T t) with
      | true =>
        simp only [if_true]
        refine ⟨(by intro u h; cases h), ?_, (by intro u h; cases h), ?_⟩
        · intro u h; cases h; exact expired_eq hex h3
        · intro s0 hs0 _; have := hs s0 hs0; simp only [CallEnd.time]; omega
      | false =>
        simp only [Bool.false_eq_true, if_false]
        cases hst : stopSeen s tie (nextPoll w T t) with
        | true =>
          simp only [if_true]
          obtain ⟨s0, hs0, hle⟩ := stopSeen_true hst
          have := hs s0 hs0
          refine ⟨?_, (by intro u h; cases h), (by intro u h; cases h), ?_⟩
          · intro u h; cases h; exact ⟨s0, hs0, hle, by omega⟩
          · intro s1 hs1 _; rw [hs0] at hs1; cases hs1; simp only [CallEnd.time]; omega
        | false =>
          simp only [Bool.false_eq_true, if_false]
          apply ih
          · intro s0 hs0; rw [hs0] at hst; exact stopSeen_false hst
          · exact h3

/-- With a stop requested at `s0 ≥ t` the call does not outlive `fuel` waits as soon as
    `s0 + w < t + fuel · w`: every wait that does not end the call lasts a full interval. -/
theorem timedCall_ends (w : Nat) (T : Option Nat) (s0 : Nat) (tie : Bool) (r : Option Nat) :
    ∀ (fuel t : Nat), t ≤ s0 → s0 + w < t + fuel * w → timedCall w T (some s0) tie r fuel t ≠ .running := by
  intro fuel
  induction fuel with
  | zero => intro t h0 h; simp at h; omega
  | succ fuel ih =>
    intro t h0 h
    simp only [timedCall]
    cases hres : rescued r (nextPoll w T t) with
    | true => simp
    | false =>
      cases hex : expired T (nextPoll w T t) with
      | true => simp
      | false =>
        cases hst : stopSeen (some s0) tie (nextPoll w T t) with
        | true => simp
        | false =>
          simp only [Bool.false_eq_true, if_false]
          apply ih
          · exact stopSeen_false hst
          · rw [nextPoll_full hex]
            rw [Nat.succ_mul] at h
            omega


end IterQueue
