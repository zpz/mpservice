import MpsVerif.Model.Batch
import MpsVerif.Core.Sys
/-! Relational presentation of `Batch.step` (one constructor per action and outcome) and its
soundness; invariant proofs do `cases` on `Step`. -/
namespace Batch

inductive Step (c : Cfg) : State → Act → State → Prop where
  | arrive {s} (kd : Kind) :
      Step c s (.arrive kd) { s with qin := s.qin ++ [.req ⟨s.nextId, kd⟩], nextId := s.nextId + 1,
                                      arrived := s.arrived ++ [⟨s.nextId, kd⟩] }
  | stop {s} : s.stopped = false → Step c s .stop { s with qin := s.qin ++ [.stop], stopped := true }
  | tick {s} : (∀ i, i < c.k → tickOk c s.clock (s.ws i) = true) → Step c s .tick { s with clock := s.clock + 1 }
  | cLock {s i} : i < c.k → 1 < c.b → (s.ws i).cph = .top → s.lock = none → (s.ws i).buf.length < c.cap →
      Step c s (.cLock i) { setW s i { s.ws i with cph := .locked } with lock := some i }
  | cGet {s i z rest} : i < c.k → (s.ws i).cph = .locked → s.qin = z :: rest →
      Step c s (.cGet i) { setW s i { s.ws i with cph := .have z } with qin := rest }
  | cPutStop {s i} : i < c.k → (s.ws i).cph = .have .stop →
      Step c s (.cPut i) { setW s i { s.ws i with cph := .done, buf := (s.ws i).buf ++ [.stop] } with
                           qin := s.qin ++ [.stop], out := s.out ++ [.sentinel i], lock := none }
  | cPutGood {s i r} : i < c.k → (s.ws i).cph = .have (.req r) → r.kind = .good → (s.ws i).buf.length < c.cap →
      Step c s (.cPut i) (setW s i { s.ws i with cph := .after, buf := (s.ws i).buf ++ [.req r] })
  | cPutShort {s i r} : i < c.k → (s.ws i).cph = .have (.req r) → r.kind ≠ .good →
      Step c s (.cPut i) { setW s i { s.ws i with cph := .after } with out := s.out ++ [.res r.uid (shortRes r.kind)] }
  | cMore {s i z rest} : i < c.k → (s.ws i).cph = .after → (s.ws i).buf.length < c.b → s.qin = z :: rest →
      Step c s (.cMore i) { setW s i { s.ws i with cph := .have z } with qin := rest }
  | cNoMore {s i} : i < c.k → (s.ws i).cph = .after → (s.qin = [] ∨ c.b ≤ (s.ws i).buf.length) →
      Step c s (.cNoMore i) (setW s i { s.ws i with cph := .decide })
  | cDecFlag {s i} : i < c.k → (s.ws i).cph = .decide → (s.ws i).flag = true →
      Step c s (.cDecide i) { setW s i { s.ws i with cph := .top, flag := false } with lock := none }
  | cDecFull {s i} : i < c.k → (s.ws i).cph = .decide → (s.ws i).flag = false → c.b ≤ (s.ws i).buf.length →
      Step c s (.cDecide i) { setW s i { s.ws i with cph := .top } with lock := none }
  | cDecCont {s i} : i < c.k → (s.ws i).cph = .decide → (s.ws i).flag = false → (s.ws i).buf.length < c.b →
      Step c s (.cDecide i) (setW s i { s.ws i with cph := .locked })
  | gFirstStop {s i rest} : i < c.k → 1 < c.b → (s.ws i).gph = .idle → mayPull c (s.ws i) = true →
      (s.ws i).buf = .stop :: rest →
      Step c s (.gFirst i) { setW s i { s.ws i with gph := .fin, buf := rest } with
                             qin := s.qin ++ [.stop], out := s.out ++ [.sentinel i] }
  | gFirstReq {s i r rest} : i < c.k → 1 < c.b → (s.ws i).gph = .idle → mayPull c (s.ws i) = true →
      (s.ws i).buf = .req r :: rest →
      Step c s (.gFirst i) (setW s i { s.ws i with gph := .coll [r] s.clock, buf := rest })
  | gNextStop {s i batch t0 rest} : i < c.k → (s.ws i).gph = .coll batch t0 → batch.length < c.b →
      (s.ws i).buf = .stop :: rest →
      Step c s (.gNext i) (setW s i { s.ws i with gph := .ready batch t0, buf := rest ++ [.stop] })
  | gNextMore {s i batch t0 r rest} : i < c.k → (s.ws i).gph = .coll batch t0 → batch.length < c.b →
      (s.ws i).buf = .req r :: rest → (batch ++ [r]).length < c.b →
      Step c s (.gNext i) (setW s i { s.ws i with gph := .coll (batch ++ [r]) t0, buf := rest })
  | gNextFull {s i batch t0 r rest} : i < c.k → (s.ws i).gph = .coll batch t0 → batch.length < c.b →
      (s.ws i).buf = .req r :: rest → ¬ (batch ++ [r]).length < c.b →
      Step c s (.gNext i) (setW s i { s.ws i with gph := .ready (batch ++ [r]) t0, buf := rest })
  | gTimeout {s i batch t0} : i < c.k → (s.ws i).gph = .coll batch t0 → t0 + c.wait ≤ s.clock →
      Step c s (.gTimeout i) (setW s i { s.ws i with gph := .ready batch t0 })
  | gRelease {s i batch t0} : i < c.k → (s.ws i).gph = .ready batch t0 →
      Step c s (.gRelease i)
        (setW s i { s.ws i with gph := .idle, flag := true, pd := (s.ws i).pd ++ [⟨batch, t0, s.clock, .queued⟩] })
  | sGetStop {s i rest} : i < c.k → c.b ≤ 1 → (s.ws i).gph = .idle → mayPull c (s.ws i) = true →
      s.qin = .stop :: rest →
      Step c s (.sGet i) { setW s i { s.ws i with gph := .fin } with
                           qin := rest ++ [.stop], out := s.out ++ [.sentinel i] }
  | sGetGood {s i r rest} : i < c.k → c.b ≤ 1 → (s.ws i).gph = .idle → mayPull c (s.ws i) = true →
      s.qin = .req r :: rest → r.kind = .good →
      Step c s (.sGet i) { setW s i { s.ws i with pd := (s.ws i).pd ++ [⟨[r], s.clock, s.clock, .queued⟩] } with
                           qin := rest }
  | sGetShort {s i r rest} : i < c.k → c.b ≤ 1 → (s.ws i).gph = .idle → mayPull c (s.ws i) = true →
      s.qin = .req r :: rest → r.kind ≠ .good →
      Step c s (.sGet i) { s with qin := rest, out := s.out ++ [.res r.uid (shortRes r.kind)] }
  | callEnter {s i j e} : i < c.k → (s.ws i).pd[j]? = some e → e.st = .queued →
      Step c s (.callEnter i j)
        { setW s i { s.ws i with pd := (s.ws i).pd.set j { e with st := .running s.calls.length } } with
          calls := s.calls ++ [⟨i, e.batch, decide (0 < c.b), e.t0, e.trel, s.clock⟩] }
  | callRet {s i j e cid} (ok : Bool) : i < c.k → (s.ws i).pd[j]? = some e → e.st = .running cid →
      Step c s (.callRet i j ok) (setW s i { s.ws i with pd := (s.ws i).pd.set j { e with st := .done cid ok } })
  | emit {s i e rest cid ok} : i < c.k → (s.ws i).pd = e :: rest → e.st = .done cid ok →
      Step c s (.emit i) { setW s i { s.ws i with pd := rest } with out := s.out ++ outsOf e.batch cid ok }

theorem step_sound (c : Cfg) (s s' : State) (a : Act) (h : step c s a = some s') : Step c s a s' := by
  revert h
  fun_cases step c s a <;> intro h <;> cases h
  next kd => exact .arrive kd
  next hc => exact .stop hc
  next hc => exact .tick (by simpa using hc)
  next hc => exact .cLock hc.1 hc.2.1 hc.2.2.1 hc.2.2.2.1 hc.2.2.2.2
  next hc _ _ hq => exact .cGet hc.1 hc.2 hq
  next hc hp => exact .cPutStop hc hp
  next hc _ hp hk hl => exact .cPutGood hc hp hk hl
  next hc _ hp hk => exact .cPutShort hc hp hk
  next hc _ _ hq => exact .cMore hc.1 hc.2.1 hc.2.2 hq
  next hc => exact .cNoMore hc.1 hc.2.1 hc.2.2
  next hc hf => exact .cDecFlag hc.1 hc.2 hf
  next hc hf hb => exact .cDecFull hc.1 hc.2 (by simpa using hf) hb
  next hc hf hb => exact .cDecCont hc.1 hc.2 (by simpa using hf) (Nat.lt_of_not_le hb)
  next hc _ hb => exact .gFirstStop hc.1 hc.2.1 hc.2.2.1 hc.2.2.2 hb
  next hc _ _ hb => exact .gFirstReq hc.1 hc.2.1 hc.2.2.1 hc.2.2.2 hb
  next hc _ _ hg hl _ hb => exact .gNextStop hc hg hl hb
  next hc _ _ hg hl _ _ hb hm => exact .gNextMore hc hg hl hb hm
  next hc _ _ hg hl _ _ hb hm => exact .gNextFull hc hg hl hb hm
  next hc _ _ hg hd => exact .gTimeout hc hg hd
  next hc _ _ hg => exact .gRelease hc hg
  next hc _ hq => exact .sGetStop hc.1 hc.2.1 hc.2.2.1 hc.2.2.2 hq
  next hc _ _ hq hk => exact .sGetGood hc.1 hc.2.1 hc.2.2.1 hc.2.2.2 hq hk
  next hc _ _ hq hk => exact .sGetShort hc.1 hc.2.1 hc.2.2.1 hc.2.2.2 hq hk
  next hc _ he hq => exact .callEnter hc he hq
  next hc _ he _ hst => exact .callRet _ hc he hst
  next hc _ _ hp _ _ hst => exact .emit hc hp hst

def Reachable (c : Cfg) (s : State) : Prop := Core.Reach (step c) init s

theorem reachable_inv {c : Cfg} {Inv : State → Prop} (h0 : Inv init)
    (hstep : ∀ s a s', Inv s → Step c s a s' → Inv s') {s : State} (hr : Reachable c s) : Inv s :=
  Core.invariant_reach (fun s a s' hi hs => hstep s a s' hi (step_sound c s s' a hs)) h0 hr

end Batch
