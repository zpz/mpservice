import MpsVerif.Proofs.FifoLive
import MpsVerif.Model.AFifo
/-! What the invariants of the `fifo_stream` model say about a run, stated for any state that
    satisfies them: the model of `async_fifo_stream` inherits these through its projection
    (`Proofs/AFifoSim.lean`). -/
namespace Fifo

variable {c : Cfg} {s : State}

theorem AllInv.exactly_once (h : AllInv c s) :
    s.calls.Nodup ∧
    (∀ i ∈ s.out, c.preFail i = false → s.calls.count i = 1) ∧
    (∀ i, c.preFail i = true → i ∉ s.calls) := by
  have hnd : s.calls.Nodup := h.pool.calls.nodup_iff.mpr
    (h.pool.nodup.sublist (List.filter_sublist.append (List.sublist_append_left _ _)))
  refine ⟨hnd, fun i hi hp => ?_, fun i hp hc => ?_⟩
  · rw [hnd.count, if_pos (h.pool.calls.mem_iff.mpr (List.mem_append_left _ ?_))]
    exact List.mem_filter.mpr ⟨(h.res.ready i hi).1, congrArg not hp⟩
  · rcases List.mem_append.mp (h.pool.calls.mem_iff.mp hc) with h1 | h1
    · exact Bool.noConfusion ((List.mem_filter.mp h1).2.symm.trans (congrArg not hp))
    · exact Bool.noConfusion ((h.pool.passed i (List.mem_append_left _ h1)).symm.trans hp)

theorem AllInv.complete (h : AllInv c s) (hclosed : s.cpc = .closed) (hnr : s.raised = none)
    (hnc : s.closeReq = false) : s.out = List.range c.n := by
  rw [← (h.res.all (hclosed ▸ rfl) hnr hnc).1]
  exact h.res.out_eq

theorem AllInv.first_failure (h : AllInv c s) {i : Nat} (hraised : s.raised = some (.item i)) :
    s.out = List.range i ∧ (∀ j < i, c.isErr j = false) ∧ c.isErr i = true ∧ i < c.n := by
  obtain ⟨r1, r2, r3, _⟩ := h.res
  obtain ⟨a1, _, a3, a4, a5⟩ := r3 i hraised
  refine ⟨a1 ▸ r1, fun j hj => ?_, a3, a5⟩
  refine (r2 j (r1 ▸ List.mem_range.mpr (a1 ▸ hj))).2.resolve_right fun h' => ?_
  exact Bool.noConfusion (a4.symm.trans h')

theorem AllInv.source_failure (h : AllInv c s) (hraised : s.raised = some .src) :
    s.out = List.range c.n ∧ c.srcEnd = .exc :=
  have := h.res.src hraised
  ⟨this.1 ▸ h.res.out_eq, this.2⟩

theorem AllInv.lookahead (h : AllInv c s) : s.pulled - handed s ≤ c.cap + 3 := by
  cases ho : s.cpc.over with
  | true => have := h.cnt.2 ho; omega
  | false =>
    -- `cap + 1` queue slots, one element in the consumer's hand, one in the feeder's
    have := h.ord.count ho
    have := length_cIdx_le s.cpc
    have := qidx_length_le s.queue
    have := h.cnt.1
    have := fHold_le s.fpc
    omega

/-- while the consumer is iterating, the running calls are among the elements in flight -/
theorem AllInv.running_le (h : AllInv c s) (hact : s.cpc.active = true) :
    s.running.length ≤ c.cap + 3 := by
  have ho := CPc.over_of_active hact
  have hh : handed s = s.out.length := by rw [handed, h.ph.not_raised hact]; rfl
  have hsub : s.running ⊆ List.range' (handed s) (s.pulled - handed s) := by
    intro j hj
    have h1 : j < s.pulled := Nat.lt_of_le_of_lt (Nat.le_add_right _ _) (h.pool.lt j (List.mem_append_right _ (List.mem_append_left _ hj)))
    have h2 : ¬ j < s.out.length := fun hlt =>
      (List.nodup_append.mp h.pool.nodup).2.2 j (h.res.ready j (h.res.out_eq ▸ List.mem_range.mpr hlt)).1 j
        (List.mem_append_left _ hj) rfl
    rw [List.mem_range'_1]
    omega
  have hnd : s.running.Nodup :=
    h.pool.nodup.sublist ((List.sublist_append_left _ s.pending).trans (List.sublist_append_right s.finished _))
  have := hnd.length_le_of_subset hsub
  rw [List.length_range'] at this
  have := h.lookahead
  omega

theorem feed_round (hr : Reachable c s) (hf : s.fpc = .idle) (ht : s.toStop = false)
    (hn : s.pulled < c.n) (hp : c.preFail s.pulled = false) (hq : s.queue.length < c.cap + 1) :
    Reachable c { s with pulled := s.pulled + 1, queue := s.queue ++ [.item s.pulled],
                         pending := s.pending ++ [s.pulled] } := by
  have h1 : Reachable c { s with fpc := .check s.pulled, pulled := s.pulled + 1 } :=
    hr.tail (a := .pull) (if_pos ⟨hf, hn⟩)
  have h2 : Reachable c { s with fpc := .sub s.pulled, pulled := s.pulled + 1 } :=
    h1.tail (a := .fcheck) (if_pos ht)
  have h3 : Reachable c { s with fpc := .hold s.pulled, pulled := s.pulled + 1,
                                 pending := s.pending ++ [s.pulled] } :=
    h2.tail (a := .submit) (if_pos hp)
  have h4 : Reachable c { s with fpc := .idle, pulled := s.pulled + 1, queue := s.queue ++ [.item s.pulled],
                                 pending := s.pending ++ [s.pulled] } :=
    h3.tail (a := .put) (if_pos hq)
  rw [hf]
  exact h4

/-- element `j`'s outcome ends the iteration -/
abbrev bad (c : Cfg) (j : Nat) : Prop := c.isErr j = true ∧ c.returnExc = false

theorem expectedLen_all (c : Cfg) (k i : Nat) (h : ∀ j, i ≤ j → j < i + k → ¬ bad c j) :
    expectedLen c k i = k := by
  induction k generalizing i with
  | zero => rfl
  | succ k ih =>
    rw [expectedLen, if_neg (h i (Nat.le_refl _) (by omega)),
      ih (i+1) (fun j h1 h2 => h j (by omega) (by omega))]

theorem expectedLen_first (c : Cfg) (k i m : Nat) (h1 : i ≤ m) (h2 : m < i + k) (hb : bad c m)
    (h : ∀ j, i ≤ j → j < m → ¬ bad c j) : expectedLen c k i = m - i := by
  induction k generalizing i with
  | zero => omega
  | succ k ih =>
    rw [expectedLen]
    by_cases him : i = m
    · rw [him, if_pos hb]
      omega
    · rw [if_neg (h i (Nat.le_refl _) (by omega)),
        ih (i+1) (by omega) (by omega) (fun j h1 h2 => h j (by omega) h2)]
      omega

theorem expectedLen_congr (c1 c2 : Cfg) (hp : c1.preFail = c2.preFail) (hr : c1.resErr = c2.resErr)
    (he : c1.returnExc = c2.returnExc) (k i : Nat) : expectedLen c1 k i = expectedLen c2 k i := by
  induction k generalizing i with
  | zero => rfl
  | succ k ih =>
    have e : bad c1 i ↔ bad c2 i := by simp only [bad, Cfg.isErr, hp, hr, he]
    rw [expectedLen, expectedLen]
    by_cases h : bad c1 i
    · rw [if_pos h, if_pos (e.mp h)]
    · rw [if_neg h, if_neg (mt e.mpr h), ih]

theorem outcome_congr (c1 c2 : Cfg) (hn : c1.n = c2.n) (hs : c1.srcEnd = c2.srcEnd)
    (hp : c1.preFail = c2.preFail) (hr : c1.resErr = c2.resErr) (he : c1.returnExc = c2.returnExc) :
    AFifo.outcome c1 = AFifo.outcome c2 := by
  simp only [AFifo.outcome, hn, hs, expectedLen_congr c1 c2 hp hr he]

theorem AllInv.final_outcome (h : AllInv c s) (hcl : s.cpc = .closed) (hnc : s.closeReq = false) :
    (s.out.length, s.raised) = AFifo.outcome c := by
  obtain ⟨r1, r2, r3, r4, r5, _⟩ := h.res
  have hok : ∀ j < s.out.length, ¬ bad c j := fun j hj hb =>
    (r2 j (r1 ▸ List.mem_range.mpr hj)).2.elim (fun h' => Bool.noConfusion (h'.symm.trans hb.1))
      fun h' => Bool.noConfusion (hb.2.symm.trans h')
  have all : s.out.length = c.n → expectedLen c c.n 0 = c.n := fun hn =>
    expectedLen_all c c.n 0 fun j _ hj => hok j (by omega)
  show _ = (expectedLen c c.n 0, if expectedLen c c.n 0 < c.n then some (Raised.item (expectedLen c c.n 0))
    else if c.srcEnd = .exc then some Raised.src else none)
  cases hr : s.raised with
  | none =>
    obtain ⟨a1, a2⟩ := r5 (hcl ▸ rfl) hr hnc
    rw [all a1, if_neg (Nat.lt_irrefl _), a1, a2, if_neg nofun]
  | some r =>
    cases r with
    | src =>
      obtain ⟨a1, a2⟩ := r4 hr
      rw [all a1, if_neg (Nat.lt_irrefl _), a1, a2, if_pos rfl]
    | item i =>
      obtain ⟨a1, _, a3, a4, a5⟩ := r3 i hr
      have := expectedLen_first c c.n 0 i (Nat.zero_le _) (by omega) ⟨a3, a4⟩
        (fun j _ hj => hok j (by omega))
      rw [this, Nat.sub_zero, if_pos a5, a1]

end Fifo
