import MpsVerif.Model.Servlet
/-!
# Simple servlet (worker node): the graph of its step function and its invariant

`kc m l` counts the ghost-annotated messages of `l` whose key (uid, input) is `m`.  The
conservation invariant says: what was sent, plus what is still inside (to be emitted, in a call,
held), is — as a multiset of keys — exactly what was received.
-/
namespace Servlet

theorem eraseIdx_perm {α : Type} {l : List α} {k : Nat} {x : α} (h : l[k]? = some x) :
    l.Perm (x :: l.eraseIdx k) := by
  induction l generalizing k with
  | nil => simp at h
  | cons y ys ih =>
    cases k with
    | zero =>
      cases h
      exact List.Perm.refl _
    | succ k => exact ((ih h).cons y).trans (List.Perm.swap x y _)

/-- what `emit` does to `sentG ++ emitq` -/
theorem move_perm {α : Type} (a : List α) {l : List α} {k : Nat} {x : α} (h : l[k]? = some x) :
    ((a ++ [x]) ++ l.eraseIdx k).Perm (a ++ l) := by
  rw [List.append_assoc]
  exact (eraseIdx_perm h).symm.append_left a

theorem forall_mem_add {α : Type} {p : α → Prop} {a b c : List α} (h : ∀ x ∈ a ++ b, p x)
    (hc : ∀ x ∈ c, p x) : ∀ x ∈ a ++ (b ++ c), p x := by
  rw [← List.append_assoc]
  exact List.forall_mem_append.mpr ⟨h, hc⟩

theorem mem_of_getElem?_eq {α : Type} {l : List α} {k : Nat} {a : α} (h : l[k]? = some a) : a ∈ l :=
  List.mem_of_getElem? h

theorem mem_eraseIdx_mem {α : Type} {l : List α} {k : Nat} {a : α} (h : a ∈ l.eraseIdx k) : a ∈ l :=
  List.mem_of_mem_eraseIdx h

theorem count_snoc_snoc (m a : Msg) (l r : List Msg) :
    (l ++ [a]).count m + r.count m = l.count m + (r ++ [a]).count m := by
  simp only [List.count_append]
  omega

theorem count_map_eraseIdx {α : Type} (f : α → Msg) (m : Msg) {l : List α} {k : Nat} {a : α}
    (h : l[k]? = some a) : ((l.eraseIdx k).map f ++ [f a]).count m = (l.map f).count m :=
  ((List.perm_append_singleton _ _).trans ((eraseIdx_perm h).map f).symm).count_eq m

theorem fst_unique {l : List Msg} (h : (l.map (·.1)).Nodup) {u : Nat} {x y : Val}
    (hx : (u, x) ∈ l) (hy : (u, y) ∈ l) : x = y := by
  induction l with
  | nil => cases hx
  | cons a l ih =>
    rw [List.map_cons, List.nodup_cons] at h
    rcases List.mem_cons.mp hx with hx | hx <;> rcases List.mem_cons.mp hy with hy | hy
    · exact (Prod.mk.inj (hx.trans hy.symm)).2
    · exact absurd (List.mem_map.mpr ⟨_, hy, (congrArg Prod.fst hx : u = a.1)⟩) h.1
    · exact absurd (List.mem_map.mpr ⟨_, hx, (congrArg Prod.fst hy : u = a.1)⟩) h.1
    · exact ih h.2 hx hy

theorem nodup_snoc {l : List Msg} {m : Msg} (h : ((l ++ [m]).map (·.1)).Nodup) :
    (l.map (·.1)).Nodup ∧ m.1 ∉ l.map (·.1) := by
  rw [List.map_append, List.nodup_append] at h
  exact ⟨h.1, fun hm => h.2.2 _ hm m.1 (List.mem_singleton.mpr rfl) rfl⟩

theorem nodup_of_nodup_fst {l : List Msg} (h : (l.map (·.1)).Nodup) : l.Nodup := by
  rw [List.nodup_iff_count] at h ⊢
  exact fun a => Nat.le_trans List.count_le_count_map (h a.1)

theorem nodup_fst_of_count_le (l : List Msg) {l' : List Msg} (h : ∀ m, l.count m ≤ l'.count m)
    (hn : (l'.map (·.1)).Nodup) : (l.map (·.1)).Nodup := by
  have hmem : ∀ m ∈ l, m ∈ l' := fun m hm =>
    List.count_pos_iff.mp (Nat.lt_of_lt_of_le (List.count_pos_iff.mpr hm) (h m))
  have hl : l.Nodup := by
    rw [List.nodup_iff_count]
    exact fun m => Nat.le_trans (h m) (List.nodup_iff_count.mp (nodup_of_nodup_fst hn) m)
  refine List.pairwise_map.mpr (hl.imp_of_mem fun {a b} ha hb hne hab => hne ?_)
  refine Prod.ext hab (fst_unique hn (u := a.1) (hmem a ha) ?_)
  rw [hab]
  exact hmem b hb

def pkey (p : Nat × Msg) : Nat × Nat := (p.1, p.2.1)

def kc (m : Msg) (l : List GMsg) : Nat := (l.map gkey).count m

@[simp] theorem kc_nil (m : Msg) : kc m [] = 0 := rfl
@[simp] theorem kc_append (m : Msg) (a b : List GMsg) : kc m (a ++ b) = kc m a + kc m b := by
  simp [kc, List.count_append]
theorem kc_cons (m : Msg) (t : GMsg) (l : List GMsg) : kc m (t :: l) = kc m l + (if gkey t = m then 1 else 0) := by
  simp [kc, List.count_cons]
@[simp] theorem kc_singleton (m : Msg) (t : GMsg) : kc m [t] = (if gkey t = m then 1 else 0) := by
  simp [kc_cons]

theorem kc_snoc (m : Msg) (l : List GMsg) (t : GMsg) (r : List Msg) :
    kc m (l ++ [t]) + r.count m = kc m l + (r ++ [gkey t]).count m := by
  simp only [kc, List.map_append]
  exact count_snoc_snoc m (gkey t) _ r

theorem kc_perm (m : Msg) {l l' : List GMsg} (h : l.Perm l') : kc m l = kc m l' :=
  (h.map gkey).count_eq m

theorem kc_move (m : Msg) (a : List GMsg) {l : List GMsg} {k : Nat} {t : GMsg} (h : l[k]? = some t) :
    kc m (a ++ [t]) + kc m (l.eraseIdx k) = kc m a + kc m l := by
  rw [← kc_append, ← kc_append]
  exact kc_perm m (move_perm a h)

theorem kc_flatten_eraseIdx (m : Msg) {l : List (List GMsg)} {k : Nat} {b : List GMsg} (h : l[k]? = some b) :
    kc m (l.eraseIdx k).flatten + kc m b = kc m l.flatten := by
  have := ((eraseIdx_perm h).flatten.map gkey).count_eq m
  rw [List.flatten_cons, List.map_append, List.count_append] at this
  unfold kc
  omega

namespace Wk

theorem pick_sublist {α : Type} (l : List α) (mask : List Bool) : (pick l mask).Sublist l := by
  fun_induction pick l mask with
  | case1 a as bs ih => exact ih.cons_cons a
  | case2 a as bs ih => exact ih.cons a
  | case3 => exact List.nil_sublist _

theorem unpick_sublist {α : Type} (l : List α) (mask : List Bool) : (unpick l mask).Sublist l := by
  fun_induction unpick l mask with
  | case1 a as bs ih => exact ih.cons_cons a
  | case2 a as bs ih => exact ih.cons a
  | case3 => exact List.nil_sublist _

theorem kc_pick_unpick (m : Msg) (l : List GMsg) (mask : List Bool) (h : mask.length = l.length) :
    kc m (pick l mask) + kc m (unpick l mask) = kc m l := by
  induction l generalizing mask with
  | nil => cases mask <;> rfl
  | cons a as ih =>
    cases mask with
    | nil => cases h
    | cons b bs =>
      have := ih bs (Nat.succ.inj h)
      cases b <;> simp only [pick, unpick, kc_cons] <;> omega

theorem results_key (w : WSpec) (b : List Item) : (results w b).map gkey = b.map gkey := by
  unfold results
  split
  · simp [gkey, Function.comp_def]
  · split <;> simp [gkey, Function.comp_def]

theorem kc_results (w : WSpec) (m : Msg) (b : List Item) : kc m (results w b) = kc m b := by
  simp [kc, results_key]

theorem mem_results (w : WSpec) (b : List Item) {t : GMsg} (h : t ∈ results w b) :
    ∃ t0 ∈ b, t.1 = t0.1 ∧ t.2.1 = t0.2.1 ∧
      (t.2.2 = w.f t0.2.2 ∨ (w.bs ≠ 0 ∧ ∃ err, w.bfail (b.map (·.2.2)) = some err ∧ t.2.2 = err)) := by
  unfold results at h
  split at h
  · obtain ⟨t0, h0, rfl⟩ := List.mem_map.mp h
    exact ⟨t0, h0, rfl, rfl, Or.inl rfl⟩
  · rename_i hbs
    split at h
    · rename_i err herr
      obtain ⟨t0, h0, rfl⟩ := List.mem_map.mp h
      exact ⟨t0, h0, rfl, rfl, Or.inr ⟨hbs, err, herr, rfl⟩⟩
    · obtain ⟨t0, h0, rfl⟩ := List.mem_map.mp h
      exact ⟨t0, h0, rfl, rfl, Or.inl rfl⟩

/-- the hypothesis on the worker spec: `berrs` covers what a batched call may raise -/
def BerrsOk (w : WSpec) : Prop := ∀ B e, w.bfail B = some e → e ∈ w.berrs

/-- an item past `preprocess` -/
abbrev ItemOk (w : WSpec) (t : Item) : Prop :=
  t.2.1.isExc = false ∧ t.2.2 = w.pre t.2.1 ∧ t.2.2.isExc = false

theorem results_good {w : WSpec} (hb : BerrsOk w) {b : List Item} (hi : ∀ t ∈ b, ItemOk w t) :
    ∀ t ∈ results w b, t.2.2 ∈ wouts w t.2.1 := by
  intro t ht
  obtain ⟨t0, h0, -, h2, h3⟩ := mem_results w b ht
  obtain ⟨i1, i2, i3⟩ := hi t0 h0
  rw [i2] at i3 h3
  rw [h2, wouts, if_neg (by simp [i1]), if_neg (by simp [i3])]
  rcases h3 with h3 | ⟨hbs, err, he, h3⟩
  · rw [h3]
    split <;> simp
  · rw [h3, if_neg hbs]
    exact List.mem_cons_of_mem _ (hb _ _ he)

inductive Step (w : WSpec) (s : State) : Act → State → Prop
  | arrive (m : Msg) : Step w s (.arrive m) { s with qin := s.qin ++ [m] }
  /-- an exception value, or one rejected by `preprocess`, goes straight to the output -/
  | takeShort (u : Nat) (x r : Val) (rest : List Msg) (hq : s.qin = (u, x) :: rest)
      (hr : x.isExc = true ∧ r = x ∨ x.isExc = false ∧ (w.pre x).isExc = true ∧ r = w.pre x) :
      Step w s .take { s with qin := rest, recv := s.recv ++ [(u, x)], emitq := s.emitq ++ [(u, x, r)] }
  | takeHeld (u : Nat) (x : Val) (rest : List Msg) (hq : s.qin = (u, x) :: rest)
      (hx : x.isExc = false) (hp : (w.pre x).isExc = false) :
      Step w s .take { s with qin := rest, recv := s.recv ++ [(u, x)], held := s.held ++ [(u, x, w.pre x)] }
  | start (mask : List Bool) (hl : mask.length = s.held.length) (hne : pick s.held mask ≠ [])
      (hsz : (pick s.held mask).length ≤ max 1 w.bs) (hnw : s.busy.length < w.nw) :
      Step w s (.start mask)
        { s with held := unpick s.held mask, busy := s.busy ++ [pick s.held mask],
                 calls := s.calls ++ [(pick s.held mask).map (·.2.2)] }
  | finish (k : Nat) (b : List Item) (hk : s.busy[k]? = some b) :
      Step w s (.finish k)
        { s with busy := s.busy.eraseIdx k, emitq := s.emitq ++ results w b,
                 blog := s.blog ++ [(b, results w b)] }
  | emit (k : Nat) (t : GMsg) (hk : s.emitq[k]? = some t) :
      Step w s (.emit k)
        { s with emitq := s.emitq.eraseIdx k, qout := s.qout ++ [gmsg t], sentG := s.sentG ++ [t] }
  | deliver (m : Msg) (rest : List Msg) (hq : s.qout = m :: rest) : Step w s .deliver { s with qout := rest }

theorem step_sound {w : WSpec} {s s' : State} {a : Act} (h : step w s a = some s') : Step w s a s' := by
  revert s'
  fun_cases step w s a <;> intro s' h <;> cases h
  next m => exact .arrive m
  next hq hx => exact .takeShort _ _ _ _ hq (.inl ⟨hx, rfl⟩)
  next hq hx hp => exact .takeShort _ _ _ _ hq (.inr ⟨Bool.eq_false_iff.mpr hx, hp, rfl⟩)
  next hq hx hp => exact .takeHeld _ _ _ hq (Bool.eq_false_iff.mpr hx) (Bool.eq_false_iff.mpr hp)
  next mask _ hg => exact .start mask hg.1 hg.2.1 hg.2.2.1 hg.2.2.2
  next hk => exact .finish _ _ hk
  next hk => exact .emit _ _ hk
  next hq => exact .deliver _ _ hq

structure Inv (w : WSpec) (s : State) : Prop where
  cons : ∀ m, kc m s.sentG + (kc m s.emitq + kc m s.busy.flatten + kc m s.held) = s.recv.count m
  good : ∀ t ∈ s.sentG ++ s.emitq, t.2.2 ∈ wouts w t.2.1
  item : ∀ t ∈ s.held ++ s.busy.flatten, ItemOk w t
  bsz  : ∀ b ∈ s.busy, b ≠ [] ∧ b.length ≤ max 1 w.bs
  conc : s.busy.length ≤ w.nw
  call : ∀ c ∈ s.calls, c ≠ [] ∧ c.length ≤ max 1 w.bs ∧ ∀ v ∈ c, v.isExc = false
  blog : ∀ e ∈ s.blog, e.2 = results w e.1 ∧ e.1 ≠ [] ∧ e.1.length ≤ max 1 w.bs ∧ ∀ t ∈ e.2, t ∈ s.sentG ++ s.emitq
  /-- `sentG` is the ghost-annotated history of `q_out`: what was delivered downstream followed by
      what is still on the queue -/
  out : ∃ d, d ++ s.qout = s.sentG.map gmsg
  /-- where a message on the way out comes from: the exception that entered (short-circuit), the
      failure of `preprocess` on its own input, or a finished `call` (recorded in `blog`) -/
  src : ∀ t ∈ s.sentG ++ s.emitq,
    (t.2.1.isExc = true ∧ t.2.2 = t.2.1) ∨
    (t.2.1.isExc = false ∧ (w.pre t.2.1).isExc = true ∧ t.2.2 = w.pre t.2.1) ∨
    ∃ e ∈ s.blog, t ∈ e.2

theorem inv_init (w : WSpec) : Inv w init where
  cons := fun _ => rfl
  good := nofun
  item := nofun
  bsz := nofun
  conc := Nat.zero_le _
  call := nofun
  blog := nofun
  out := ⟨[], rfl⟩
  src := nofun

variable {w : WSpec} {s s' : State} {a : Act}

theorem inv_step (hb : BerrsOk w) (h : Inv w s) (hs : Step w s a s') : Inv w s' where
  cons m := by
    have := h.cons m
    cases hs with
    | takeShort u x r rest hq hr =>
      have : kc m (s.emitq ++ [(u, x, r)]) + s.recv.count m = kc m s.emitq + (s.recv ++ [(u, x)]).count m :=
        kc_snoc m s.emitq (u, x, r) s.recv
      dsimp only
      omega
    | takeHeld u x rest hq hx hp =>
      have : kc m (s.held ++ [(u, x, w.pre x)]) + s.recv.count m = kc m s.held + (s.recv ++ [(u, x)]).count m :=
        kc_snoc m s.held (u, x, w.pre x) s.recv
      dsimp only
      omega
    | start mask hl hne hsz hnw =>
      have := kc_pick_unpick m s.held mask hl
      simp only [List.flatten_append, List.flatten_cons, List.flatten_nil, List.append_nil, kc_append]
      omega
    | finish k b hk =>
      have := kc_flatten_eraseIdx m hk
      simp only [kc_append, kc_results]
      omega
    | emit k t hk =>
      have := kc_move m s.sentG hk
      dsimp only
      omega
    | _ => exact this
  good := by
    cases hs with
    | takeShort u x r rest hq hr =>
      refine forall_mem_add h.good (List.forall_mem_singleton.mpr ?_)
      rcases hr with ⟨hx, rfl⟩ | ⟨hx, hp, rfl⟩ <;> simp [wouts, *]
    | finish k b hk =>
      refine forall_mem_add h.good (results_good hb fun t ht => ?_)
      exact h.item t (List.mem_append_right _ (List.mem_flatten.mpr ⟨b, List.mem_of_getElem? hk, ht⟩))
    | emit k t hk => exact fun t' ht' => h.good t' ((move_perm _ hk).mem_iff.mp ht')
    | _ => exact h.good
  item := by
    cases hs with
    | takeHeld u x rest hq hx hp =>
      intro t ht
      rcases List.mem_append.mp ht with ht | ht
      · rcases List.mem_append.mp ht with ht | ht
        · exact h.item t (List.mem_append_left _ ht)
        · cases List.mem_singleton.mp ht
          exact ⟨hx, rfl, hp⟩
      · exact h.item t (List.mem_append_right _ ht)
    | start mask hl hne hsz hnw =>
      intro t ht
      simp only [List.mem_append, List.flatten_append, List.flatten_cons, List.flatten_nil,
        List.append_nil] at ht
      rcases ht with ht | ht | ht
      · exact h.item t (List.mem_append_left _ ((unpick_sublist _ _).subset ht))
      · exact h.item t (List.mem_append_right _ ht)
      · exact h.item t (List.mem_append_left _ ((pick_sublist _ _).subset ht))
    | finish k b hk =>
      intro t ht
      rcases List.mem_append.mp ht with ht | ht
      · exact h.item t (List.mem_append_left _ ht)
      · obtain ⟨b', hb', ht⟩ := List.mem_flatten.mp ht
        exact h.item t (List.mem_append_right _ (List.mem_flatten.mpr ⟨b', List.mem_of_mem_eraseIdx hb', ht⟩))
    | _ => exact h.item
  bsz := by
    cases hs with
    | start mask hl hne hsz hnw =>
      exact List.forall_mem_append.mpr ⟨h.bsz, List.forall_mem_singleton.mpr ⟨hne, hsz⟩⟩
    | finish k b hk => exact fun b' hb' => h.bsz b' (List.mem_of_mem_eraseIdx hb')
    | _ => exact h.bsz
  conc := by
    cases hs with
    | start mask hl hne hsz hnw =>
      rw [List.length_append]
      exact hnw
    | finish k b hk => exact Nat.le_trans (List.length_eraseIdx_le _ _) h.conc
    | _ => exact h.conc
  call := by
    cases hs with
    | start mask hl hne hsz hnw =>
      refine List.forall_mem_append.mpr ⟨h.call, List.forall_mem_singleton.mpr ⟨?_, ?_, ?_⟩⟩
      · exact fun hc => hne (List.map_eq_nil_iff.mp hc)
      · rw [List.length_map]
        exact hsz
      · intro v hv
        obtain ⟨t, ht, rfl⟩ := List.mem_map.mp hv
        exact (h.item t (List.mem_append_left _ ((pick_sublist _ _).subset ht))).2.2
    | _ => exact h.call
  blog := by
    have mono : (∀ t ∈ s.sentG ++ s.emitq, t ∈ s'.sentG ++ s'.emitq) →
        ∀ e ∈ s.blog, e.2 = results w e.1 ∧ e.1 ≠ [] ∧ e.1.length ≤ max 1 w.bs ∧
          ∀ t ∈ e.2, t ∈ s'.sentG ++ s'.emitq := by
      intro hsub e he
      obtain ⟨h1, h2, h3, h4⟩ := h.blog e he
      exact ⟨h1, h2, h3, fun t ht => hsub t (h4 t ht)⟩
    have grow : ∀ (c : List GMsg), ∀ t ∈ s.sentG ++ s.emitq, t ∈ s.sentG ++ (s.emitq ++ c) := fun c t ht => by
      rw [← List.append_assoc]
      exact List.mem_append_left _ ht
    cases hs with
    | takeShort u x r rest hq hr => exact mono (grow _)
    | finish k b hk =>
      refine List.forall_mem_append.mpr ⟨mono (grow _), List.forall_mem_singleton.mpr ?_⟩
      have hb := h.bsz b (List.mem_of_getElem? hk)
      exact ⟨rfl, hb.1, hb.2, fun t ht => List.mem_append_right _ (List.mem_append_right _ ht)⟩
    | emit k t hk => exact mono fun t' ht' => (move_perm _ hk).mem_iff.mpr ht'
    | _ => exact h.blog
  out := by
    obtain ⟨d, hd⟩ := h.out
    cases hs with
    | emit k t hk =>
      refine ⟨d, ?_⟩
      rw [← List.append_assoc, hd, List.map_append]
      rfl
    | deliver m rest hq =>
      refine ⟨d ++ [m], ?_⟩
      rw [← hd, hq, List.append_assoc]
      rfl
    | _ => exact ⟨d, hd⟩
  src := by
    cases hs with
    | takeShort u x r rest hq hr =>
      refine forall_mem_add h.src (List.forall_mem_singleton.mpr ?_)
      rcases hr with hr | hr
      · exact Or.inl hr
      · exact Or.inr (Or.inl hr)
    | finish k b hk =>
      refine forall_mem_add (fun t ht => ?_) fun t ht => Or.inr (Or.inr ⟨(b, results w b), ?_, ht⟩)
      · exact (h.src t ht).imp_right fun h1 =>
          h1.imp_right fun ⟨e, he, hte⟩ => ⟨e, List.mem_append_left _ he, hte⟩
      · exact List.mem_append_right _ (List.mem_singleton.mpr rfl)
    | emit k t hk => exact fun t' ht' => h.src t' ((move_perm _ hk).mem_iff.mp ht')
    | _ => exact h.src

theorem inv_run {w : WSpec} (hb : BerrsOk w) {as : List Act} {s : State}
    (hr : Core.run (step w) init as = some s) : Inv w s :=
  Core.invariant_run (Inv := Inv w) (fun _ _ _ h hs => inv_step hb h (step_sound hs)) as init s
    (inv_init w) hr

end Wk
end Servlet
