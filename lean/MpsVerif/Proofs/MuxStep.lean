import MpsVerif.Model.Mux
import MpsVerif.Core.Sys
/-! Relational presentation of `Mux.step` and its soundness; `Reachable`; invariant lifting. -/
namespace Mux

inductive Step (c : Cfg) : State → Act → State → Prop where
  | submit {s x id} : Fresh s id → s.pending.length < c.pendCap →
      Step c s (.submit x id)
        { s with reqs := s.reqs ++ [⟨x, id⟩], pending := s.pending ++ [(x, s.reqs.length)],
                 stage := upd s.stage s.reqs.length .pending }
  | ssubmit {s x id} : Fresh s id → s.pending.length < c.pendCap →
      Step c s (.ssubmit x id)
        { s with reqs := s.reqs ++ [⟨x, id⟩], pending := s.pending ++ [(x, s.reqs.length)],
                 tasks := s.tasks ++ [(x, s.reqs.length)], sin := s.sin ++ [x],
                 stage := upd s.stage s.reqs.length .pending }
  | send {s ci x k rest cn r} : s.pending = (x, k) :: rest → s.conns[ci]? = some cn → s.reqs[k]? = some r →
      cn.wire.length < c.wireCap →
      Step c s (.send ci)
        { s with pending := rest,
                 conns := s.conns.set ci { cn with wire := cn.wire ++ [⟨r.id, x, k⟩] },
                 active := insert s.active r.id k,
                 stage := upd s.stage k (.wire ci) }
  | srvRecv {s ci cn m rest} : s.conns[ci]? = some cn → cn.wire = m :: rest → cn.srvq.length < c.srvCap →
      Step c s (.srvRecv ci)
        { s with conns := s.conns.set ci { cn with wire := rest, srvq := cn.srvq ++ [⟨m.rid, m.data, false, m.gk⟩] },
                 stage := upd s.stage m.gk (.srv ci) }
  | finish {s ci j cn t} : s.conns[ci]? = some cn → cn.srvq[j]? = some t → t.done = false →
      Step c s (.finish ci j)
        { s with conns := s.conns.set ci { cn with srvq := cn.srvq.set j { t with done := true } } }
  | respond {s ci cn t rest} : s.conns[ci]? = some cn → cn.srvq = t :: rest → t.done = true →
      cn.back.length < c.backCap →
      Step c s (.respond ci)
        { s with conns := s.conns.set ci { cn with srvq := rest, back := cn.back ++ [⟨t.rid, c.handler t.data, t.gk⟩] },
                 stage := upd s.stage t.gk (.back ci) }
  | recv {s ci cn r rest k} : s.conns[ci]? = some cn → cn.back = r :: rest → lookup s.active r.rid = some k →
      Step c s (.recv ci)
        { s with conns := s.conns.set ci { cn with back := rest },
                 active := remove s.active r.rid,
                 results := s.results ++ [(k, r.resp)],
                 stage := upd s.stage k .resolved }
  | syield {s x k rest v} : s.tasks = (x, k) :: rest → resultOf s.results k = some v →
      Step c s .syield { s with tasks := rest, sout := s.sout ++ [(x, v)] }

theorem step_sound (c : Cfg) (s s' : State) (a : Act) (h : step c s a = some s') : Step c s a s' := by
  revert h
  fun_cases step c s a <;> intro h <;> cases h
  next hg => exact .submit hg.1 hg.2
  next hg => exact .ssubmit hg.1 hg.2
  next hc hp _ hr hg => exact .send hp hc hr hg
  next hc _ _ hw hg => exact .srvRecv hc hw hg
  next hc _ ht hd => exact .finish hc ht (Bool.eq_false_iff.2 hd)
  next hc _ _ hq hg => exact .respond hc hq hg.1 hg.2
  next hc _ _ hb _ hl => exact .recv hc hb hl
  next ht _ hv => exact .syield ht hv

def Reachable (c : Cfg) (s : State) : Prop := Core.Reach (step c) (init c) s

theorem reachable_inv (c : Cfg) {Inv : State → Prop} (h0 : Inv (init c))
    (hstep : ∀ s a s', Inv s → Step c s a s' → Inv s') {s : State} (hr : Reachable c s) : Inv s :=
  Core.invariant_reach (fun s a s' hi hs => hstep s a s' hi (step_sound c s s' a hs)) h0 hr

end Mux
