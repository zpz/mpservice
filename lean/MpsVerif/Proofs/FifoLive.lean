import MpsVerif.Proofs.FifoInv
/-! Liveness of the `fifo_stream` model: a measure that every step decreases (every execution is
    finite) and progress (a non-final reachable state always has an enabled action).  Together:
    every maximal execution ends in `Final` — nothing blocks forever, whatever the schedule. -/
namespace Fifo

def frank : FPc → Nat
  | .done => 0 | .putEnd => 4 | .putExc => 4 | .idle => 5 | .hold _ => 9 | .sub _ => 12 | .check _ => 13
def crank : CPc → Nat
  | .closed => 0 | .join => 1 | .drain => 2 | .stopping => 3 | .idle => 4 | .susp => 5 | .wait _ => 6

/-- what is left to do with the elements already pulled -/
def weight (s : State) : Nat :=
  2 * s.pending.length + s.running.length + 3 * s.queue.length + frank s.fpc + crank s.cpc

/-- A source element weighs 9: pulling it raises the feeder's rank by 8 (`idle` to `check`).  A queue
    entry weighs 3: putting one lowers the feeder's rank by 4, taking one raises the consumer's by at
    most 2.  A call weighs 2 while pending and 1 while running (`start`, `finish` take 1 each);
    submitting it lowers the feeder's rank by 3.  Initially `weight` is `5 + 4`: the bound `9·n + 9`. -/
def mu (c : Cfg) (s : State) : Nat := 9 * (c.n - s.pulled) + weight s

theorem mu_fpc (c : Cfg) (s : State) {f : FPc} (h : frank f < frank s.fpc) {fi : List Nat} :
    mu c { s with fpc := f, finished := fi } < mu c s :=
  Nat.add_lt_add_left (Nat.add_lt_add_right (Nat.add_lt_add_left h _) _) _

theorem mu_put (c : Cfg) (s : State) {f : FPc} (h : frank f + 4 ≤ frank s.fpc) {x : QItem} :
    mu c { s with fpc := f, queue := s.queue ++ [x] } < mu c s := by
  simp only [mu, weight, List.length_append, List.length_singleton]
  omega

theorem mu_cpc (c : Cfg) (s : State) {cp : CPc} (h : crank cp < crank s.cpc) {t : Bool} {o : List Nat}
    {r : Option Raised} {cl : Bool} :
    mu c { s with toStop := t, cpc := cp, out := o, raised := r, closeReq := cl } < mu c s :=
  Nat.add_lt_add_left (Nat.add_lt_add_left h _) _

theorem mu_take (c : Cfg) (s : State) {x : QItem} {q : List QItem} (hq : s.queue = x :: q) {cp : CPc}
    (h : crank cp ≤ crank s.cpc + 2) {pe : List Nat} (hpe : pe.length ≤ s.pending.length)
    {r : Option Raised} {ca : List Nat} :
    mu c { s with queue := q, cpc := cp, raised := r, pending := pe, cancelled := ca } < mu c s := by
  simp only [mu, weight, hq, List.length_cons]
  omega

theorem mu_decreases (c : Cfg) (s : State) (a : Act) (s' : State) (hs : Step c s a s') :
    mu c s' < mu c s := by
  cases hs with
  | pull hf hn =>
    simp only [mu, weight, hf, frank]
    omega
  | srcEnd hf | srcRaise hf | fcheck hf | stopSeen hf | preFail hf =>
    exact mu_fpc c s (by simp [hf, frank])
  | put hf | putEnd hf | putExc hf => exact mu_put c s (by simp [hf, frank])
  | submit hf =>
    simp only [mu, weight, hf, frank, List.length_append, List.length_singleton]
    omega
  | start hj =>
    have := List.length_pos_of_mem hj
    simp only [mu, weight, List.length_erase_of_mem hj, List.length_append, List.length_singleton]
    omega
  | finish hj =>
    have := List.length_pos_of_mem hj
    simp only [mu, weight, List.length_erase_of_mem hj]
    omega
  | getItem hc hq | getEnd hc hq | getExc hc hq | drainSkip hc hq | drainEnd hc hq | drainExc hc hq =>
    exact mu_take c s hq (by simp [hc, crank]) (Nat.le_refl _)
  | drainCancel _ hq => exact mu_take c s hq (Nat.le_add_right _ _) List.length_erase_le
  | yld hc | raiseItem hc | next hc | close hc | setStop hc | drainEmpty hc | join hc =>
    exact mu_cpc c s (by simp [hc, crank])

/-- the element whose future the feeder has obtained but not yet enqueued -/
def holdIdx : FPc → List Nat
  | .hold i => [i] | _ => []

theorem holdIdx_sublist (f : FPc) : (holdIdx f).Sublist (fIdx f) := by
  cases f <;> simp [holdIdx, fIdx]

/-- every element the consumer will still look at has a future -/
def FutInv (s : State) : Prop :=
  ∀ i ∈ cIdx s.cpc ++ qidx s.queue ++ holdIdx s.fpc, i ∈ s.pending ∨ i ∈ s.running ∨ i ∈ s.finished

theorem fut_step {c : Cfg} {s s' : State} {a : Act} (hsort : SortInv s) (h : FutInv s)
    (hs : Step c s a s') : FutInv s' := by
  unfold FutInv at h ⊢
  cases hs with
  | pull hf | srcEnd hf | srcRaise hf | fcheck hf | stopSeen hf =>
    rw [hf] at h
    exact h
  | put hf | putEnd hf | putExc hf =>
    rw [hf] at h
    exact fun i hi => h i (by simpa [qidx, holdIdx] using hi)
  | submit hf =>
    rw [hf] at h
    intro j hj
    rcases List.mem_append.mp hj with hj | hj
    · exact (h j (List.mem_append_left _ hj)).imp_left (List.mem_append_left _)
    · exact .inl (List.mem_append_right _ hj)
  | preFail hf =>
    rw [hf] at h
    intro j hj
    rcases List.mem_append.mp hj with hj | hj
    · exact (h j (List.mem_append_left _ hj)).imp_right (.imp_right (List.mem_cons_of_mem _))
    · exact .inr (.inr (List.mem_singleton.mp hj ▸ List.mem_cons_self))
  | start =>
    rename_i j _ _
    intro i hi
    rcases h i hi with h | h | h
    · by_cases hij : i = j
      · exact .inr (.inl (hij ▸ List.mem_append_right _ (List.mem_singleton_self _)))
      · exact .inl ((List.mem_erase_of_ne hij).mpr h)
    · exact .inr (.inl (List.mem_append_left _ h))
    · exact .inr (.inr h)
  | finish =>
    rename_i j _
    intro i hi
    rcases h i hi with h | h | h
    · exact .inl h
    · by_cases hij : i = j
      · exact .inr (.inr (hij ▸ List.mem_cons_self))
      · exact .inr (.inl ((List.mem_erase_of_ne hij).mpr h))
    · exact .inr (.inr (List.mem_cons_of_mem _ h))
  | getItem hc hq | getEnd hc hq | getExc hc hq | drainEnd hc hq | drainExc hc hq =>
    rw [hc, hq] at h
    exact h
  | next hc | close hc | setStop hc | drainEmpty hc | join hc =>
    rw [hc] at h
    exact h
  | yld hc | raiseItem hc =>
    rw [hc] at h
    exact fun i hi => h i (List.mem_cons_of_mem _ hi)
  | drainSkip hc hq =>
    rw [hc, hq] at h
    rw [hc]
    exact fun i hi => h i (List.mem_cons_of_mem _ hi)
  | drainCancel hc hq =>
    rw [hc, hq] at h
    rw [hc]
    intro i hi
    -- the cancelled element is the smallest in flight, so `i` is another one
    have hlt := hsort.1
    rw [hq] at hlt
    have := (List.pairwise_cons.mp hlt).1 i
      ((List.Sublist.append_left (holdIdx_sublist s.fpc) _).subset hi)
    refine (h i (List.mem_cons_of_mem _ hi)).imp_left fun h => (List.mem_erase_of_ne ?_).mpr h
    omega

/-- puts the feeder will still make once the stop flag is set -/
def futurePuts : FPc → Nat
  | .idle => 1 | .check _ => 1 | .sub _ => 2 | .hold _ => 2 | .putEnd => 1 | .putExc => 1 | .done => 0

/-- once the queue is drained, what the feeder still puts fits in it (`cap ≥ 1`): `join` cannot block -/
def PutInv (s : State) : Prop :=
  s.cpc = .join → s.toStop = true → s.queue.length + futurePuts s.fpc ≤ 2

theorem PutInv.feeder {s : State} (h : PutInv s) {f : FPc} {q : List QItem}
    (hle : q.length + futurePuts f ≤ s.queue.length + futurePuts s.fpc) {p : Nat} {pe fi : List Nat} :
    PutInv { s with pulled := p, fpc := f, queue := q, pending := pe, finished := fi } :=
  fun hc ht => Nat.le_trans hle (h hc ht)

theorem put_step {c : Cfg} {s s' : State} {a : Act} (hph : PhaseInv s) (htl : tailOK s.queue)
    (h : PutInv s) (hs : Step c s a s') : PutInv s' := by
  cases hs with
  | start | finish => exact h
  | pull hf | srcEnd hf | srcRaise hf | stopSeen hf | submit hf | preFail hf | put hf | putEnd hf
  | putExc hf =>
    exact h.feeder (by simp [hf, futurePuts])
  | fcheck _ ht => exact fun _ ht' => Bool.noConfusion (ht.symm.trans ht')
  | drainCancel hc | drainSkip hc => exact fun hj => by rw [hc] at hj; nomatch hj
  | drainEnd _ hq | drainExc _ hq =>
    obtain ⟨hd, rfl⟩ := mark_head hph htl hq rfl
    intro _ _
    show 0 + futurePuts s.fpc ≤ 2
    rw [hd]
    decide
  | drainEmpty _ hq =>
    intro _ _
    show s.queue.length + futurePuts s.fpc ≤ 2
    rw [hq]
    cases s.fpc <;> simp [futurePuts]
  | _ => exact nofun

/-- everything that does not depend on the pool's limit `conc` -/
structure AllInv (c : Cfg) (s : State) : Prop where
  ph : PhaseInv s
  sort : SortInv s
  ord : OrderInv s
  cnt : CountInv c s
  sup : SuppInv c s
  res : ResInv c s
  pool : PoolInv c s
  fut : FutInv s
  put : PutInv s

theorem all_init (c : Cfg) : AllInv c init :=
  ⟨phase_init, sort_init, order_init, count_init c, supp_init c, res_init c, pool_init c, nofun, nofun⟩

theorem all_step (c : Cfg) (s : State) (a : Act) (s' : State) (h : AllInv c s) (hs : Step c s a s') :
    AllInv c s' :=
  ⟨phase_step h.ph hs, sort_step h.sort hs, order_step h.ph h.ord hs,
   count_step h.ph h.ord h.cnt hs, supp_step h.ph.no_mark h.sup hs,
   res_step h.ph h.ord h.sup h.res hs, pool_step h.pool hs,
   fut_step h.sort h.fut hs, put_step h.ph h.sup.tail h.put hs⟩

theorem all_reachable (c : Cfg) {s : State} (hr : Reachable c s) : AllInv c s :=
  reachable_inv c (all_init c) (all_step c) hr

theorem AllInv.conc {c : Cfg} {s : State} (h : AllInv c s) (k : Nat) : AllInv { c with conc := k } s :=
  { h with sup := { h.sup with }, res := { h.res with }, pool := { h.pool with } }

theorem progress_of_inv (c : Cfg) (hcap : 1 ≤ c.cap) (hconc : 1 ≤ c.conc) (s : State)
    (h : AllInv c s) (hnf : ¬ Final s) : ∃ a, (step c s a).isSome = true := by
  have feeder : s.fpc ≠ .done → s.queue.length < c.cap + 1 → ∃ a, (step c s a).isSome = true := by
    intro hnd hroom
    cases hf : s.fpc with
    | idle =>
      by_cases hn : s.pulled < c.n
      · exact ⟨.pull, Option.isSome_of_eq_some (if_pos ⟨hf, hn⟩)⟩
      · have hn' : s.pulled = c.n := Nat.le_antisymm h.sup.pulled_le (Nat.le_of_not_lt hn)
        cases hse : c.srcEnd with
        | clean => exact ⟨.srcEnd, Option.isSome_of_eq_some (if_pos ⟨hf, hn', hse⟩)⟩
        | exc => exact ⟨.srcRaise, Option.isSome_of_eq_some (if_pos ⟨hf, hn', hse⟩)⟩
    | check i =>
      cases ht : s.toStop with
      | false => exact ⟨.fcheck, by simp [step, hf, ht]⟩
      | true => exact ⟨.stopSeen, by simp [step, hf, ht]⟩
    | sub i =>
      cases hp : c.preFail i with
      | false => exact ⟨.submit, by simp [step, hf, hp]⟩
      | true => exact ⟨.preFail, by simp [step, hf, hp]⟩
    | hold i => exact ⟨.put, by simp [step, hf, hroom]⟩
    | putEnd => exact ⟨.putEnd, Option.isSome_of_eq_some (if_pos ⟨hf, hroom⟩)⟩
    | putExc => exact ⟨.putExc, Option.isSome_of_eq_some (if_pos ⟨hf, hroom⟩)⟩
    | done => exact absurd hf hnd
  have pool : ¬ (s.pending = [] ∧ s.running = []) → ∃ a, (step c s a).isSome = true := by
    intro h
    cases hr : s.running with
    | cons j rest => exact ⟨.finish j, Option.isSome_of_eq_some (if_pos (hr ▸ List.mem_cons_self))⟩
    | nil =>
      cases hp : s.pending with
      | nil => exact absurd ⟨hp, hr⟩ h
      | cons j rest => exact ⟨.start j, Option.isSome_of_eq_some (if_pos ⟨hp ▸ List.mem_cons_self, hr ▸ hconc⟩)⟩
  cases hc : s.cpc with
  | idle =>
    cases hq : s.queue with
    | nil =>
      refine feeder (fun hd => ?_) (by simp [hq])
      have := h.ph.one_mark (hc ▸ rfl) hd
      rw [hq] at this
      nomatch this
    | cons x rest => cases x <;> exact ⟨.get, by simp [step, hc, hq]⟩
  | wait i =>
    rcases h.fut i (by simp [hc, cIdx]) with h | h | h
    · exact pool fun hne => List.ne_nil_of_mem h hne.1
    · exact pool fun hne => List.ne_nil_of_mem h hne.2
    · cases he : c.isErr i with
      | false => exact ⟨.yld, by simp [step, hc, h, he]⟩
      | true =>
        cases hx : c.returnExc with
        | true => exact ⟨.yld, by simp [step, hc, h, hx]⟩
        | false => exact ⟨.raiseItem, by simp [step, hc, h, he, hx]⟩
  | susp => exact ⟨.next, Option.isSome_of_eq_some (if_pos hc)⟩
  | stopping => exact ⟨.setStop, Option.isSome_of_eq_some (if_pos hc)⟩
  | drain =>
    cases hq : s.queue with
    | nil => exact ⟨.drainEmpty, Option.isSome_of_eq_some (if_pos ⟨hc, hq⟩)⟩
    | cons x rest =>
      cases x with
      | item i => exact ⟨.drainSkip, by simp [step, hc, hq]⟩
      | endMark | excMark => exact ⟨.drainMark, by simp [step, hc, hq]⟩
  | join =>
    by_cases hd : s.fpc = .done
    · exact ⟨.join, Option.isSome_of_eq_some (if_pos ⟨hc, hd⟩)⟩
    · have hts : s.toStop = true := by
        cases ht : s.toStop with
        | true => rfl
        | false => exact absurd (h.ph.done_of_over (hc ▸ rfl) ht) hd
      have hb := h.put hc hts
      have hfp : 1 ≤ futurePuts s.fpc := by
        cases hf : s.fpc <;> first | exact absurd hf hd | simp [futurePuts]
      exact feeder hd (by omega)
  | closed => exact pool fun hne => hnf ⟨hc, hne⟩

end Fifo
