import MpsVerif.Proofs.LaneStep
/-! The inductive invariant of the single-writer / single-reader lane (`nw = nr = 1`): thread 0 is the writer `w`,
    thread 1 the reader `r`.  It is stated twice: `Good`, one flat structure, is what the property theorems read;
    `Side`, a table of facts per program point of one thread, is what the preservation proof works on; `good_iff`
    says they are the same. -/
namespace Lane

/-- program points at which the thread holds the mutex -/
def Pc.Holds (pc : Pc) : Prop := pc = .check ∨ pc = .act ∨ pc = .note ∨ ∃ r, pc = .leave r

def Pc.holds : Pc → Bool
  | .check | .act | .note | .leave _ => true
  | _ => false

theorem Pc.holds_iff (pc : Pc) : pc.Holds ↔ pc.holds = true := by
  cases pc <;> simp [Pc.Holds, Pc.holds]

theorem isFull_iff {c : Cfg} {s : State} : isFull c s = true ↔ 0 < c.maxsize ∧ c.maxsize ≤ s.q.length := by
  simp [isFull]

theorem isFull_false_iff {c : Cfg} {s : State} : isFull c s = false ↔ (0 < c.maxsize → s.q.length < c.maxsize) := by
  rw [← Bool.not_eq_true, isFull_iff]
  omega

/-- the thread's waiter lock is in its condition's list -/
def Thr.listed (th : Thr) : Prop := (th.pc = .wait ∨ th.pc = .relock false) ∧ th.notified = false

instance (th : Thr) : Decidable th.listed := by unfold Thr.listed; exact inferInstance

/-- woken, or about to be: the thread will go on to `act` without a further check -/
def Thr.released (th : Thr) : Prop := th.pc = .act ∨ th.pc = .relock true ∨ (th.pc = .wait ∧ th.notified = true)

structure Good (N : Nat) (q : List Nat) (owner : Option Nat) (w r : Thr) (nfW neW putH gotH : List Nat) : Prop where
  own0 : owner = some 0 ↔ w.pc.Holds
  own1 : owner = some 1 ↔ r.pc.Holds
  ownR : ∀ t, owner = some t → t = 0 ∨ t = 1
  nf : nfW = if w.listed then [0] else []
  ne : neW = if r.listed then [1] else []
  fifo : putH = gotH ++ q
  bound : 0 < N → q.length ≤ N
  wRoom : w.released → 0 < N → q.length < N
  rNote : r.pc = .note → 0 < N → q.length < N
  rHas : r.released → q ≠ []
  wNote : w.pc = .note → q ≠ []
  wWait : w.pc = .wait → w.notified = false → (0 < N ∧ N ≤ q.length) ∨ r.pc = .note
  rWait : r.pc = .wait → r.notified = false → q = [] ∨ w.pc = .note
  wFired : w.fired = true → w.mode = .timed
  rFired : r.fired = true → r.mode = .timed
  wRes : ∀ x, (w.pc = .leave x ∨ w.pc = .fin x) → x = .ok ∨ (x = .full ∧ (w.mode = .nowait ∨ w.fired = true))
  rRes : ∀ x, (r.pc = .leave x ∨ r.pc = .fin x) → x = .ok ∨ (x = .empty ∧ (r.mode = .nowait ∨ r.fired = true))
  wFullNow : w.pc = .leave .full → w.mode = .nowait → 0 < N ∧ N ≤ q.length
  rEmptyNow : r.pc = .leave .empty → r.mode = .nowait → q = []
  wLost : w.pc = .relock false → w.fired = true
  rLost : r.pc = .relock false → r.fired = true
  wMode : (w.pc = .wait ∨ ∃ g, w.pc = .relock g) → w.mode ≠ .nowait
  rMode : (r.pc = .wait ∨ ∃ g, r.pc = .relock g) → r.mode ≠ .nowait
  rVal : (r.pc = .note ∨ r.pc = .leave .ok ∨ r.pc = .fin .ok) → gotH.getLast? = some r.val

def Inv (c : Cfg) (s : State) : Prop :=
  ∃ w r, s.thr = [w, r] ∧ Good c.maxsize s.q s.owner w r s.nfW s.neW s.putH s.gotH

theorem inv_intro (c : Cfg) (s : State) (h : s.thr.length = 2)
    (g : Good c.maxsize s.q s.owner (s.th 0) (s.th 1) s.nfW s.neW s.putH s.gotH) : Inv c s := by
  obtain ⟨q, owner, thr, nfW, neW, putH, gotH⟩ := s
  rcases thr with _ | ⟨w, _ | ⟨r, _ | _⟩⟩
  · cases h
  · cases h
  · exact ⟨w, r, rfl, g⟩
  · cases h

theorem Inv.good {c : Cfg} {s : State} (hi : Inv c s) :
    Good c.maxsize s.q s.owner (s.th 0) (s.th 1) s.nfW s.neW s.putH s.gotH := by
  obtain ⟨w, r, hthr, g⟩ := hi
  obtain ⟨q, owner, thr, nfW, neW, putH, gotH⟩ := s
  cases hthr
  exact g

theorem Inv.length {c : Cfg} {s : State} (hi : Inv c s) : s.thr.length = 2 := by
  obtain ⟨w, r, hthr, _⟩ := hi
  simp [hthr]

/-! Writer and reader run the same protocol on the same mutex, each with a condition of its own, and what `Good`
says of the one it says of the other.  `Side e me` says it once, for a thread `me` and what it sees of the rest
of the state (`Env`): which program point comes with which facts (`Side.At`).  A step of the thread itself moves
it to another row of that table; a step of its peer changes its environment only (`frame`, `peer_acts`,
`notified`, `unlisted`). -/

/-- what a thread's part of the invariant refers to besides the thread's own record -/
structure Env where
  i : Nat
  fail : Res            -- what its failed check raises
  owner : Option Nat
  list : List Nat       -- the waiter list of its condition
  must : Prop           -- its guard: the call has to wait
  mustPeer : Prop       -- the peer's guard
  peerNote : Prop       -- the peer is at its `notify()`
  got : Nat → Prop      -- "is the item last taken" (reader)

/-- how a call may end with result `x`: it did its `append` / `popleft`, or its check failed — non-blocking, and
    (`still`: while the mutex is held) the guard still holds — or its timed wait expired -/
def Side.Out (e : Env) (me : Thr) (still : Prop) (x : Res) : Prop :=
  (x = .ok ∧ e.got me.val) ∨ (x = e.fail ∧ ((me.mode = .nowait ∧ still) ∨ me.fired = true))

def Side.At (e : Env) (me : Thr) : Pc → Prop
  | .wait => me.mode ≠ .nowait ∧ (me.notified = true → ¬e.must) ∧ (me.notified = false → e.must ∨ e.peerNote)
  | .relock true => me.mode ≠ .nowait ∧ ¬e.must
  | .relock false => me.mode ≠ .nowait ∧ me.fired = true
  | .act => ¬e.must
  | .note => ¬e.mustPeer ∧ e.got me.val
  | .leave x => Side.Out e me e.must x
  | .fin x => Side.Out e me True x
  | _ => True

structure Side (e : Env) (me : Thr) : Prop where
  own : e.owner = some e.i ↔ me.pc.holds = true
  list : e.list = if me.listed then [e.i] else []
  fired : me.fired = true → me.mode = .timed
  row : Side.At e me me.pc

namespace Side
variable {e : Env} {me : Thr} {m : Mode} {v : Nat} {n f : Bool}

theorem Out.weaken {p : Prop} {x : Res} (h : Out e me p x) : Out e me True x :=
  h.imp_right (And.imp_right (Or.imp_left (And.imp_right fun _ => trivial)))

theorem idle (ho : e.owner = none) (hl : e.list = []) : Side e {} :=
  ⟨iff_of_false (ho ▸ nofun) Bool.false_ne_true, hl, nofun, trivial⟩

theorem checkWait (h : Side e ⟨.check, m, v, n, f⟩) (hm : e.must) (hn : m ≠ .nowait) :
    Side { e with owner := none, list := e.list ++ [e.i] } ⟨.wait, m, v, false, f⟩ :=
  ⟨iff_of_false nofun Bool.false_ne_true, congrArg (· ++ [e.i]) h.list, h.fired, hn, nofun, fun _ => .inl hm⟩

theorem timeoutFire (h : Side e ⟨.wait, m, v, n, f⟩) (hm : m = .timed) : Side e ⟨.relock false, m, v, n, true⟩ := by
  refine ⟨h.own, ?_, fun _ => hm, h.row.1, rfl⟩
  cases n <;> exact h.list

/-- `if not gotit: self._waiters.remove(waiter)`: the list had this thread's lock or, after a `notify()`, nothing -/
theorem reacqLost (h : Side e ⟨.relock false, m, v, n, f⟩) :
    Side { e with owner := some e.i, list := e.list.erase e.i } ⟨.leave e.fail, m, v, false, f⟩ := by
  refine ⟨iff_of_true rfl rfl, ?_, h.fired, .inr ⟨rfl, .inr h.row.2⟩⟩
  have hl : e.list = _ := h.list
  rw [hl]
  cases n
  · exact List.erase_cons_head e.i []
  · rfl

theorem unlock {x : Res} (h : Side e ⟨.leave x, m, v, n, f⟩) : Side { e with owner := none } ⟨.fin x, m, v, n, f⟩ :=
  ⟨iff_of_false nofun Bool.false_ne_true, h.list, h.fired, h.row.weaken⟩

/-- the mutex changes hands among the others, the peer reaches or keeps its `notify()` -/
theorem frame {o : Option Nat} {pn : Prop} (h : Side e me) (ho : o = some e.i ↔ e.owner = some e.i)
    (hn : e.peerNote → pn) : Side { e with owner := o, peerNote := pn } me := by
  refine ⟨ho.trans h.own, h.list, h.fired, ?_⟩
  have hr := h.row
  generalize me.pc = pc at hr ⊢
  cases pc with
  | wait => exact ⟨hr.1, hr.2.1, fun hu => (hr.2.2 hu).imp_right hn⟩
  | relock g => cases g <;> exact hr
  | _ => exact hr

/-- the peer, holding the mutex, appends / pops: this thread's guard is now false -/
theorem peer_acts {m mp pn : Prop} (h : Side e me) (ho : e.owner ≠ some e.i) (hm : ¬m) (hpn : pn) :
    Side { e with must := m, mustPeer := mp, peerNote := pn } me := by
  have hh : me.pc.holds = false := Bool.eq_false_iff.mpr (mt h.own.mpr ho)
  refine ⟨h.own, h.list, h.fired, ?_⟩
  have hr := h.row
  generalize me.pc = pc at hr hh ⊢
  cases pc with
  | wait => exact ⟨hr.1, fun _ => hm, fun _ => .inr hpn⟩
  | relock g =>
    cases g with
    | true => exact ⟨hr.1, hm⟩
    | false => exact hr
  | check | act | note | leave x => cases hh
  | _ => exact hr

/-- the peer's `notify()` finds this thread's waiter lock, the only one in the list, and releases it -/
theorem notified {u : Nat} {rest : List Nat} {pn : Prop} (h : Side e me) (hl : e.list = u :: rest) (hm : ¬e.must) :
    u = e.i ∧ Side { e with list := rest, peerNote := pn } { me with notified := true } := by
  obtain ⟨pc, _, _, n, _⟩ := me
  have hl' := h.list.symm.trans hl
  have hr := h.row
  cases pc with
  | wait =>
    cases n with
    | true => cases hl'
    | false =>
      cases hl'
      exact ⟨rfl, h.own, rfl, h.fired, hr.1, fun _ => hm, nofun⟩
  | relock g =>
    cases g with
    | true => cases hl'
    | false =>
      cases n with
      | true => cases hl'
      | false =>
        cases hl'
        exact ⟨rfl, h.own, rfl, h.fired, hr⟩
  | _ => cases hl'

/-- the peer's `notify()` finds the list empty: this thread is not parked -/
theorem unlisted {pn : Prop} (h : Side e me) (hl : e.list = []) : Side { e with peerNote := pn } me := by
  refine ⟨h.own, h.list, h.fired, ?_⟩
  obtain ⟨pc, _, _, n, _⟩ := me
  have hl' := h.list.symm.trans hl
  have hr := h.row
  cases pc with
  | wait => exact ⟨hr.1, hr.2.1, fun hn => by cases hn; cases hl'⟩
  | relock g => cases g <;> exact hr
  | _ => exact hr

theorem row_at {pc : Pc} (h : Side e me) (hp : me.pc = pc) : At e me pc :=
  hp ▸ h.row

theorem released (h : Side e me) (hr : me.released) : ¬e.must := by
  rcases hr with hp | hp | ⟨hp, hn⟩
  · exact h.row_at hp
  · exact (h.row_at hp).2
  · exact (h.row_at hp).2.1 hn

theorem out {x : Res} (h : Side e me) (hp : me.pc = .leave x ∨ me.pc = .fin x) : Out e me True x :=
  hp.elim (fun hp => (h.row_at hp).weaken) h.row_at

theorem res {x : Res} (h : Side e me) (hp : me.pc = .leave x ∨ me.pc = .fin x) :
    x = .ok ∨ (x = e.fail ∧ (me.mode = .nowait ∨ me.fired = true)) :=
  (h.out hp).imp And.left (And.imp_right (Or.imp_left And.left))

theorem failNow (h : Side e me) (hf : e.fail ≠ .ok) (hp : me.pc = .leave e.fail) (hm : me.mode = .nowait) :
    e.must := by
  rcases h.row_at hp with ⟨hx, _⟩ | ⟨_, ⟨_, hmust⟩ | hfired⟩
  · exact absurd hx hf
  · exact hmust
  · cases hm.symm.trans (h.fired hfired)

theorem mode (h : Side e me) (hp : me.pc = .wait ∨ ∃ g, me.pc = .relock g) : me.mode ≠ .nowait := by
  rcases hp with hp | ⟨g, hp⟩
  · exact (h.row_at hp).1
  · cases g <;> exact (h.row_at hp).1

theorem taken (h : Side e me) (hf : e.fail ≠ .ok) (hp : me.pc = .note ∨ me.pc = .leave .ok ∨ me.pc = .fin .ok) :
    e.got me.val := by
  rcases hp with hp | hp
  · exact (h.row_at hp).2
  · rcases h.out hp with ⟨_, hg⟩ | ⟨hx, _⟩
    · exact hg
    · exact absurd hx.symm hf

theorem failure (h : Side e me) (hf : e.fail ≠ .ok) :
    ((me.pc = .leave e.fail ∨ me.pc = .fin e.fail) → me.mode ≠ .block) ∧
    (me.pc = .leave e.fail → me.mode = .nowait → e.must) ∧
    ((me.pc = .leave e.fail ∨ me.pc = .fin e.fail) → me.mode = .timed → me.fired = true) := by
  refine ⟨fun hp hb => ?_, h.failNow hf, fun hp hm => ?_⟩
  · rcases h.res hp with hx | ⟨_, hn | hfd⟩
    · exact hf hx
    · cases hb.symm.trans hn
    · cases hb.symm.trans (h.fired hfd)
  · rcases h.res hp with hx | ⟨_, hn | hfd⟩
    · exact absurd hx hf
    · cases hm.symm.trans hn
    · exact hfd

theorem of_clauses (own : e.owner = some e.i ↔ me.pc.Holds) (list : e.list = if me.listed then [e.i] else [])
    (fired : me.fired = true → me.mode = .timed) (go : me.released → ¬e.must)
    (note : me.pc = .note → ¬e.mustPeer) (wait : me.pc = .wait → me.notified = false → e.must ∨ e.peerNote)
    (res : ∀ x, (me.pc = .leave x ∨ me.pc = .fin x) → x = .ok ∨ (x = e.fail ∧ (me.mode = .nowait ∨ me.fired = true)))
    (now : me.pc = .leave e.fail → me.mode = .nowait → e.must) (lost : me.pc = .relock false → me.fired = true)
    (mode : (me.pc = .wait ∨ ∃ g, me.pc = .relock g) → me.mode ≠ .nowait)
    (taken : (me.pc = .note ∨ me.pc = .leave .ok ∨ me.pc = .fin .ok) → e.got me.val) : Side e me := by
  refine ⟨own.trans (Pc.holds_iff _), list, fired, ?_⟩
  obtain ⟨pc, _, _, _, _⟩ := me
  cases pc with
  | wait => exact ⟨mode (.inl rfl), fun hn => go (.inr (.inr ⟨rfl, hn⟩)), wait rfl⟩
  | relock g =>
    cases g with
    | true => exact ⟨mode (.inr ⟨_, rfl⟩), go (.inr (.inl rfl))⟩
    | false => exact ⟨mode (.inr ⟨_, rfl⟩), lost rfl⟩
  | act => exact go (.inl rfl)
  | note => exact ⟨note rfl, taken (.inl rfl)⟩
  | leave x =>
    rcases res x (.inl rfl) with rfl | ⟨rfl, hm | hf⟩
    · exact .inl ⟨rfl, taken (.inr (.inl rfl))⟩
    · exact .inr ⟨rfl, .inl ⟨hm, now rfl hm⟩⟩
    · exact .inr ⟨rfl, .inr hf⟩
  | fin x =>
    rcases res x (.inr rfl) with rfl | ⟨rfl, hm | hf⟩
    · exact .inl ⟨rfl, taken (.inr (.inr rfl))⟩
    · exact .inr ⟨rfl, .inl ⟨hm, trivial⟩⟩
    · exact .inr ⟨rfl, .inr hf⟩
  | _ => trivial

end Side

/-- the writer: thread 0, raises `Full`, waits on `_not_full` while the deque is full -/
def envW (N : Nat) (q : List Nat) (owner : Option Nat) (nfW : List Nat) (r : Thr) : Env :=
  { i := 0, fail := .full, owner := owner, list := nfW, must := 0 < N ∧ N ≤ q.length, mustPeer := q = [],
    peerNote := r.pc = .note, got := fun _ => True }

/-- the reader: thread 1, raises `Empty`, waits on `_not_empty` while the deque is empty -/
def envR (N : Nat) (q : List Nat) (owner : Option Nat) (neW gotH : List Nat) (w : Thr) : Env :=
  { i := 1, fail := .empty, owner := owner, list := neW, must := q = [], mustPeer := 0 < N ∧ N ≤ q.length,
    peerNote := w.pc = .note, got := fun v => gotH.getLast? = some v }

section
variable {N : Nat} {q : List Nat} {owner : Option Nat} {w r : Thr} {nfW neW putH gotH : List Nat}

theorem good_iff :
    Good N q owner w r nfW neW putH gotH ↔
      (∀ t, owner = some t → t = 0 ∨ t = 1) ∧ putH = gotH ++ q ∧ (0 < N → q.length ≤ N) ∧
      Side (envW N q owner nfW r) w ∧ Side (envR N q owner neW gotH w) r := by
  constructor
  · intro g
    exact ⟨g.ownR, g.fifo, g.bound,
      .of_clauses g.own0 g.nf g.wFired (fun h hm => Nat.not_lt.mpr hm.2 (g.wRoom h hm.1)) g.wNote g.wWait g.wRes
        g.wFullNow g.wLost g.wMode (fun _ => trivial),
      .of_clauses g.own1 g.ne g.rFired g.rHas (fun h hm => Nat.not_lt.mpr hm.2 (g.rNote h hm.1)) g.rWait g.rRes
        g.rEmptyNow g.rLost g.rMode g.rVal⟩
  · intro ⟨ownR, fifo, bound, sw, sr⟩
    exact {
      own0 := sw.own.trans (Pc.holds_iff _).symm
      own1 := sr.own.trans (Pc.holds_iff _).symm
      ownR := ownR
      nf := sw.list
      ne := sr.list
      fifo := fifo
      bound := bound
      wRoom := fun h h0 => Nat.lt_of_not_le fun hle => sw.released h ⟨h0, hle⟩
      rNote := fun h h0 => Nat.lt_of_not_le fun hle => (sr.row_at h).1 ⟨h0, hle⟩
      rHas := sr.released
      wNote := fun h => (sw.row_at h).1
      wWait := fun h => (sw.row_at h).2.2
      rWait := fun h => (sr.row_at h).2.2
      wFired := sw.fired
      rFired := sr.fired
      wRes := fun _ => sw.res
      rRes := fun _ => sr.res
      wFullNow := sw.failNow nofun
      rEmptyNow := sr.failNow nofun
      wLost := fun h => (sw.row_at h).2
      rLost := fun h => (sr.row_at h).2
      wMode := sw.mode
      rMode := sr.mode
      rVal := sr.taken nofun }

theorem Good.writer (g : Good N q owner w r nfW neW putH gotH) : Side (envW N q owner nfW r) w :=
  (good_iff.mp g).2.2.2.1

theorem Good.reader (g : Good N q owner w r nfW neW putH gotH) : Side (envR N q owner neW gotH w) r :=
  (good_iff.mp g).2.2.2.2

theorem Good.not_both_parked (g : Good N q owner w r nfW neW putH gotH) :
    ¬((w.pc = .wait ∧ w.notified = false) ∧ (r.pc = .wait ∧ r.notified = false)) := by
  rintro ⟨⟨hw, hwn⟩, ⟨hr, hrn⟩⟩
  rcases g.wWait hw hwn with hf | hf
  · rcases g.rWait hr hrn with he | he
    · rw [he] at hf
      exact absurd hf.2 (Nat.not_le.mpr hf.1)
    · cases hw.symm.trans he
  · cases hr.symm.trans hf

end

theorem Inv.intro {c : Cfg} {s : State} {w r : Thr} (hthr : s.thr = [w, r])
    (hown : ∀ t, s.owner = some t → t = 0 ∨ t = 1) (hfifo : s.putH = s.gotH ++ s.q)
    (hbound : 0 < c.maxsize → s.q.length ≤ c.maxsize) (sw : Side (envW c.maxsize s.q s.owner s.nfW r) w)
    (sr : Side (envR c.maxsize s.q s.owner s.neW s.gotH w) r) : Inv c s :=
  ⟨w, r, hthr, good_iff.mpr ⟨hown, hfifo, hbound, sw, sr⟩⟩

theorem inv_init (c : Cfg) (h1 : c.nw = 1) (h2 : c.nr = 1) : Inv c (init c) :=
  .intro (by rw [init, h1, h2]; rfl) nofun rfl (fun _ => Nat.zero_le _) (.idle rfl rfl) (.idle rfl rfl)

theorem pair_lookup {w r th : Thr} {t : Nat} (h : [w, r][t]? = some th) : t = 0 ∧ w = th ∨ t = 1 ∧ r = th :=
  match t, h with
  | 0, h => .inl ⟨rfl, Option.some.inj h⟩
  | 1, h => .inr ⟨rfl, Option.some.inj h⟩

section
variable {c : Cfg} (h1 : c.nw = 1)
include h1

theorem writer_lookup {w r th : Thr} {t : Nat} (h : [w, r][t]? = some th) (hw : c.isWriter t = true) :
    t = 0 ∧ w = th := by
  rcases pair_lookup h with ht | ⟨rfl, _⟩
  · exact ht
  · simp [Cfg.isWriter, h1] at hw

theorem reader_lookup {w r th : Thr} {t : Nat} (h : [w, r][t]? = some th) (hw : c.isWriter t = false) :
    t = 1 ∧ r = th := by
  rcases pair_lookup h with ⟨rfl, _⟩ | ht
  · simp [Cfg.isWriter, h1] at hw
  · exact ht

theorem failRes_writer : failRes c 0 = .full := by
  simp [failRes, Cfg.isWriter, h1]

theorem failRes_reader : failRes c 1 = .empty := by
  simp [failRes, Cfg.isWriter, h1]

theorem waits_writer {s : State} : mustWait c s 0 = true ↔ 0 < c.maxsize ∧ c.maxsize ≤ s.q.length := by
  simp [mustWait, Cfg.isWriter, h1, isFull]

theorem waits_reader {s : State} : mustWait c s 1 = true ↔ s.q = [] := by
  simp [mustWait, Cfg.isWriter, h1]

theorem goes_writer {s : State} : mustWait c s 0 = false ↔ ¬(0 < c.maxsize ∧ c.maxsize ≤ s.q.length) :=
  Bool.eq_false_iff.trans (not_congr (waits_writer h1))

theorem goes_reader {s : State} : mustWait c s 1 = false ↔ ¬s.q = [] :=
  Bool.eq_false_iff.trans (not_congr (waits_reader h1))

/-- Both records are taken apart first, so that after `cases hp` each thread's table row, `holds` and `listed`
    compute; every component of the new state is then checked by unification. -/
theorem inv_step {s s' : State} {a : Act} (hi : Inv c s) (hs : Step c s a s') : Inv c s' := by
  obtain ⟨⟨wp, wm, wv, wn, wf⟩, ⟨rp, rm, rv, rn, rf⟩, hthr, g⟩ := hi
  obtain ⟨q, owner, thr, nfW, neW, putH, gotH⟩ := s
  cases hthr
  obtain ⟨hown, hfifo, hbound, sw, sr⟩ := good_iff.mp g
  cases hs with
  | call hth hp =>
    rcases pair_lookup hth with ⟨rfl, rfl⟩ | ⟨rfl, rfl⟩
    · cases hp
      exact .intro rfl hown hfifo hbound { sw with fired := nofun } (sr.frame .rfl nofun)
    · cases hp
      exact .intro rfl hown hfifo hbound (sw.frame .rfl nofun) { sr with fired := nofun }
  | acquire hth hp ho =>
    cases ho
    rcases pair_lookup hth with ⟨rfl, rfl⟩ | ⟨rfl, rfl⟩
    · cases hp
      exact .intro rfl (fun _ h => .inl (Option.some.inj h).symm) hfifo hbound { sw with own := iff_of_true rfl rfl }
        (sr.frame (iff_of_false nofun nofun) nofun)
    · cases hp
      exact .intro rfl (fun _ h => .inr (Option.some.inj h).symm) hfifo hbound
        (sw.frame (iff_of_false nofun nofun) nofun) { sr with own := iff_of_true rfl rfl }
  | checkGo hth hp hm =>
    rcases pair_lookup hth with ⟨rfl, rfl⟩ | ⟨rfl, rfl⟩
    · cases hp
      exact .intro rfl hown hfifo hbound { sw with row := (goes_writer h1).mp hm } (sr.frame .rfl nofun)
    · cases hp
      exact .intro rfl hown hfifo hbound (sw.frame .rfl nofun) { sr with row := (goes_reader h1).mp hm }
  | checkFail hth hp hm hmode =>
    rcases pair_lookup hth with ⟨rfl, rfl⟩ | ⟨rfl, rfl⟩
    · cases hp
      rw [failRes_writer h1]
      exact .intro rfl hown hfifo hbound { sw with row := .inr ⟨rfl, .inl ⟨hmode, (waits_writer h1).mp hm⟩⟩ }
        (sr.frame .rfl nofun)
    · cases hp
      rw [failRes_reader h1]
      exact .intro rfl hown hfifo hbound (sw.frame .rfl nofun)
        { sr with row := .inr ⟨rfl, .inl ⟨hmode, (waits_reader h1).mp hm⟩⟩ }
  | checkWaitW hth hp hm hmode hw =>
    obtain ⟨rfl, rfl⟩ := writer_lookup h1 hth hw
    cases hp
    obtain rfl : owner = some 0 := sw.own.mpr rfl
    exact .intro rfl nofun hfifo hbound (sw.checkWait ((waits_writer h1).mp hm) hmode)
      (sr.frame (iff_of_false nofun nofun) nofun)
  | checkWaitR hth hp hm hmode hw =>
    obtain ⟨rfl, rfl⟩ := reader_lookup h1 hth hw
    cases hp
    obtain rfl : owner = some 1 := sr.own.mpr rfl
    exact .intro rfl nofun hfifo hbound (sw.frame (iff_of_false nofun nofun) nofun)
      (sr.checkWait ((waits_reader h1).mp hm) hmode)
  | wake hth hp hn =>
    rcases pair_lookup hth with ⟨rfl, rfl⟩ | ⟨rfl, rfl⟩
    · cases hp
      cases hn
      exact .intro rfl hown hfifo hbound { sw with row := ⟨sw.row.1, sw.row.2.1 rfl⟩ } (sr.frame .rfl nofun)
    · cases hp
      cases hn
      exact .intro rfl hown hfifo hbound (sw.frame .rfl nofun) { sr with row := ⟨sr.row.1, sr.row.2.1 rfl⟩ }
  | timeoutFire hth hp hm =>
    rcases pair_lookup hth with ⟨rfl, rfl⟩ | ⟨rfl, rfl⟩
    · cases hp
      exact .intro rfl hown hfifo hbound (sw.timeoutFire hm) (sr.frame .rfl nofun)
    · cases hp
      exact .intro rfl hown hfifo hbound (sw.frame .rfl nofun) (sr.timeoutFire hm)
  | reacqGot hth ho hp =>
    cases ho
    rcases pair_lookup hth with ⟨rfl, rfl⟩ | ⟨rfl, rfl⟩
    · cases hp
      exact .intro rfl (fun _ h => .inl (Option.some.inj h).symm) hfifo hbound
        { sw with own := iff_of_true rfl rfl, row := sw.row.2 } (sr.frame (iff_of_false nofun nofun) nofun)
    · cases hp
      exact .intro rfl (fun _ h => .inr (Option.some.inj h).symm) hfifo hbound
        (sw.frame (iff_of_false nofun nofun) nofun) { sr with own := iff_of_true rfl rfl, row := sr.row.2 }
  | reacqLostW hth ho hp hw =>
    cases ho
    obtain ⟨rfl, rfl⟩ := writer_lookup h1 hth hw
    cases hp
    rw [failRes_writer h1]
    exact .intro rfl (fun _ h => .inl (Option.some.inj h).symm) hfifo hbound sw.reacqLost
      (sr.frame (iff_of_false nofun nofun) nofun)
  | reacqLostR hth ho hp hw =>
    cases ho
    obtain ⟨rfl, rfl⟩ := reader_lookup h1 hth hw
    cases hp
    rw [failRes_reader h1]
    exact .intro rfl (fun _ h => .inr (Option.some.inj h).symm) hfifo hbound
      (sw.frame (iff_of_false nofun nofun) nofun) sr.reacqLost
  | actW hth hp hw =>
    obtain ⟨rfl, rfl⟩ := writer_lookup h1 hth hw
    cases hp
    have hne : ¬q ++ [wv] = [] := List.append_ne_nil_of_right_ne_nil q (List.cons_ne_nil _ _)
    obtain rfl : owner = some 0 := sw.own.mpr rfl
    refine .intro rfl hown ((congrArg (· ++ [wv]) hfifo).trans (List.append_assoc ..)) ?_
      { sw with row := ⟨hne, trivial⟩ } (sr.peer_acts nofun hne rfl)
    intro h0
    rw [List.length_append]
    exact Nat.lt_of_not_le fun hle => sw.row ⟨h0, hle⟩
  | @actR _ _ x rest hth hp hw hq =>
    obtain ⟨rfl, rfl⟩ := reader_lookup h1 hth hw
    cases hp
    cases hq
    obtain rfl : owner = some 1 := sr.own.mpr rfl
    have hroom : ¬(0 < c.maxsize ∧ c.maxsize ≤ rest.length) :=
      fun hm => Nat.not_succ_le_self _ (Nat.le_trans (Nat.succ_le_succ hm.2) (hbound hm.1))
    exact .intro rfl hown (hfifo.trans (List.append_assoc gotH [x] rest).symm)
      (fun h0 => Nat.le_of_succ_le (hbound h0)) (sw.peer_acts nofun hroom rfl)
      { sr with row := ⟨hroom, List.getLast?_concat⟩ }
  | actUnder hth hp hw hq =>
    obtain ⟨rfl, rfl⟩ := reader_lookup h1 hth hw
    cases hp
    exact absurd hq sr.row
  | notifyWSome hth hp hw hq =>
    obtain ⟨rfl, rfl⟩ := writer_lookup h1 hth hw
    cases hp
    obtain ⟨rfl, sr'⟩ := sr.notified hq sw.row.1
    exact .intro rfl hown hfifo hbound { sw with row := .inl ⟨rfl, sw.row.2⟩ } sr'
  | notifyWNone hth hp hw hq =>
    obtain ⟨rfl, rfl⟩ := writer_lookup h1 hth hw
    cases hp
    exact .intro rfl hown hfifo hbound { sw with row := .inl ⟨rfl, sw.row.2⟩ } (sr.unlisted hq)
  | notifyRSome hth hp hw hq =>
    obtain ⟨rfl, rfl⟩ := reader_lookup h1 hth hw
    cases hp
    obtain ⟨rfl, sw'⟩ := sw.notified hq sr.row.1
    exact .intro rfl hown hfifo hbound sw' { sr with row := .inl ⟨rfl, sr.row.2⟩ }
  | notifyRNone hth hp hw hq =>
    obtain ⟨rfl, rfl⟩ := reader_lookup h1 hth hw
    cases hp
    exact .intro rfl hown hfifo hbound (sw.unlisted hq) { sr with row := .inl ⟨rfl, sr.row.2⟩ }
  | unlock hth hp =>
    rcases pair_lookup hth with ⟨rfl, rfl⟩ | ⟨rfl, rfl⟩
    · cases hp
      obtain rfl : owner = some 0 := sw.own.mpr rfl
      exact .intro rfl nofun hfifo hbound sw.unlock (sr.frame (iff_of_false nofun nofun) nofun)
    · cases hp
      obtain rfl : owner = some 1 := sr.own.mpr rfl
      exact .intro rfl nofun hfifo hbound (sw.frame (iff_of_false nofun nofun) nofun) sr.unlock
  | ret hth hp =>
    rcases pair_lookup hth with ⟨rfl, rfl⟩ | ⟨rfl, rfl⟩
    · cases hp
      exact .intro rfl hown hfifo hbound { sw with row := trivial } (sr.frame .rfl nofun)
    · cases hp
      exact .intro rfl hown hfifo hbound (sw.frame .rfl nofun) { sr with row := trivial }

end

theorem all_reachable (c : Cfg) (h1 : c.nw = 1) (h2 : c.nr = 1) {s : State} (hr : Reachable c s) : Inv c s :=
  reachable_inv c (inv_init c h1 h2) (fun _ _ _ hi hs => inv_step h1 hi hs) hr

/-- closes one (constructor, thread) case: compute the new thread table, then every field of `Good` -/
local macro "lane_fin" g:ident hthr:ident : tactic => `(tactic| (
  apply inv_intro
  · simp [setThr, markNotified, $hthr:ident]
  · simp only [setThr, markNotified, $hthr:ident, State.th, List.set_cons_zero, List.set_cons_succ,
      List.getD_cons_zero, List.getD_cons_succ, List.getElem?_cons_zero, List.getElem?_cons_succ]
    obtain ⟨own0, own1, ownR, nf, ne, fifo, bound, wRoom, rNote, rHas, wNote, wWait, rWait, wFired, rFired,
      wRes, rRes, wFullNow, rEmptyNow, wLost, rLost, wMode, rMode, rVal⟩ := $g
    apply Good.of_and
    simp_all [Pc.Holds, Thr.listed, Thr.released, mustWait, isFull_iff, isFull_false_iff, failRes]
    all_goals (and_intros <;> grind)))

/-- one constructor of `Step` for a given thread: identify the moving thread with `w` / `r`, then `lane_fin` -/
local macro "lane_case" s:ident t:term:max g:ident hthr:ident : tactic => `(tactic| (
  have hth : ($s).thr[$t]? = some ‹Thr› := by assumption
  rw [$hthr:ident] at hth
  simp at hth; subst hth; lane_fin $g $hthr))

/-- there is no third thread -/
local macro "lane_none" s:ident t:ident hthr:ident : tactic => `(tactic| (
  have hth : ($s).thr[$t + 2]? = some ‹Thr› := by assumption
  rw [$hthr:ident] at hth
  simp at hth))

end Lane
