import MpsVerif.Proofs.LaneInv
/-! Progress (no lost wake-up, no deadlock) and the per-call termination measure of the lane. -/
namespace Lane

/-- steps a call still has in front of it (an upper bound): every step of a thread other than `call`
    strictly decreases its rank -/
def Pc.rank : Pc → Nat
  | .idle => 0 | .fin _ => 1 | .leave _ => 2 | .note => 3 | .act => 4 | .relock _ => 5 | .wait => 6
  | .check => 7 | .lock => 8

@[simp] theorem rank_idle : Pc.rank .idle = 0 := rfl
@[simp] theorem rank_fin (r : Res) : Pc.rank (.fin r) = 1 := rfl
@[simp] theorem rank_leave (r : Res) : Pc.rank (.leave r) = 2 := rfl
@[simp] theorem rank_note : Pc.rank .note = 3 := rfl
@[simp] theorem rank_act : Pc.rank .act = 4 := rfl
@[simp] theorem rank_relock (g : Bool) : Pc.rank (.relock g) = 5 := rfl
@[simp] theorem rank_wait : Pc.rank .wait = 6 := rfl
@[simp] theorem rank_check : Pc.rank .check = 7 := rfl
@[simp] theorem rank_lock : Pc.rank .lock = 8 := rfl

def mu (s : State) : Nat := (s.th 0).pc.rank + (s.th 1).pc.rank

theorem markNotified_pc (l : List Thr) (u k : Nat) :
    ((markNotified l u).getD k {}).pc = (l.getD k {}).pc := by
  unfold markNotified
  split
  · rename_i tu hu
    simp only [List.getD_eq_getElem?_getD, List.getElem?_set]
    split
    · rename_i huk
      subst huk
      split
      · simp [hu]
      · rename_i hlt
        simp [List.getElem?_eq_none (Nat.le_of_not_lt hlt)] at hu
    · rfl
  · rfl

theorem mu_markNotified {s s₁ s' : State} {u : Nat} (h : s'.thr = markNotified s₁.thr u) (hlt : mu s₁ < mu s) :
    mu s' < mu s := by
  have : mu s' = mu s₁ := by simp only [mu, State.th, h, markNotified_pc]
  exact this ▸ hlt

theorem mu_setThr {s : State} {t : Nat} {w r th th' : Thr} {pc pc' : Pc} (hthr : s.thr = [w, r])
    (hth : s.thr[t]? = some th) (hp : th.pc = pc) (hp' : th'.pc = pc') (h : pc'.rank < pc.rank := by simp) :
    mu (setThr s t th') < mu s := by
  subst hp hp'
  obtain ⟨q, owner, thr, nfW, neW, putH, gotH⟩ := s
  cases hthr
  rcases pair_lookup hth with ⟨rfl, rfl⟩ | ⟨rfl, rfl⟩
  · exact Nat.add_lt_add_right h _
  · exact Nat.add_lt_add_left h _

theorem mu_step {c : Cfg} {s s' : State} {a : Act} (hi : Inv c s) (hs : Step c s a s')
    (ha : a.isCall = false) : mu s' < mu s := by
  obtain ⟨w, r, hthr, _⟩ := hi
  cases hs with
  | call => cases ha
  | acquire hth hp | checkGo hth hp | checkFail hth hp | checkWaitW hth hp | checkWaitR hth hp | wake hth hp
  | timeoutFire hth hp | actW hth hp | actR hth hp | actUnder hth hp | notifyWNone hth hp | notifyRNone hth hp
  | unlock hth hp | ret hth hp =>
    exact mu_setThr hthr hth hp rfl
  | reacqGot hth _ hp | reacqLostW hth _ hp | reacqLostR hth _ hp =>
    exact mu_setThr hthr hth hp rfl
  | notifyWSome hth hp | notifyRSome hth hp =>
    exact mu_markNotified rfl (mu_setThr hthr hth hp rfl)

theorem mu_le (s : State) : mu s ≤ 16 := by
  have h : ∀ pc : Pc, pc.rank ≤ 8 := by intro pc; cases pc <;> simp
  have := h (s.th 0).pc
  have := h (s.th 1).pc
  simp only [mu]; omega

theorem run_no_call_le (c : Cfg) (h1 : c.nw = 1) (as : List Act) (s s' : State) (hi : Inv c s)
    (hn : ∀ a ∈ as, a.isCall = false) (hr : Core.run (step c) s as = some s') : as.length + mu s' ≤ mu s := by
  have := Core.countP_le_measure mu (fun _ => true) (Inv c) (fun a => a.isCall = false)
    (fun s a s' hi _ hs => inv_step h1 hi (step_sound c s s' a hs))
    (fun s a s' hi ha hs => mu_step hi (step_sound c s s' a hs) ha) as s s' hi hn hr
  simpa using this

/-- nothing can move without the environment (a new call by an idle thread) or the clock (a timed wait):
    the mutex is free, every thread is idle or parked — not yet notified — on a condition that is really
    false, and at most one of the two is parked -/
def Quiescent (c : Cfg) (s : State) : Prop :=
  s.owner = none ∧
  ((s.th 0).pc = .idle ∨ ((s.th 0).pc = .wait ∧ (s.th 0).notified = false ∧ isFull c s = true)) ∧
  ((s.th 1).pc = .idle ∨ ((s.th 1).pc = .wait ∧ (s.th 1).notified = false ∧ s.q = [])) ∧
  ((s.th 0).pc = .idle ∨ (s.th 1).pc = .idle)

theorem enabled_of_running (c : Cfg) (s : State) (t : Nat) (th : Thr) (hth : s.thr[t]? = some th)
    (h : th.pc.Holds ∨ ∃ x, th.pc = .fin x) : ∃ a, a.internal = true ∧ (step c s a).isSome = true := by
  rcases h with (h | h | h | ⟨x, h⟩) | ⟨x, h⟩
  · refine ⟨.check t, rfl, ?_⟩
    simp only [step, hth, h, if_true]
    repeat' split
    all_goals simp
  · refine ⟨.act t, rfl, ?_⟩
    simp only [step, hth, h, if_true]
    repeat' split
    all_goals simp
  · refine ⟨.notify t, rfl, ?_⟩
    simp only [step, hth, h, if_true]
    repeat' split
    all_goals simp
  · exact ⟨.unlock t, rfl, by simp [step, hth, h]⟩
  · exact ⟨.ret t x th.val, rfl, by simp [step, hth, h]⟩

theorem enabled {c : Cfg} {s s' : State} {a : Act} (hs : Step c s a s') : (step c s a).isSome = true := by
  rw [step_complete c s s' a hs]
  rfl

theorem thread_progress (c : Cfg) {s : State} {t : Nat} {th : Thr} (hth : s.thr[t]? = some th) (ho : s.owner = none) :
    (∃ a, a.internal = true ∧ (step c s a).isSome = true) ∨ th.pc = .idle ∨ (th.pc = .wait ∧ th.notified = false) := by
  cases hp : th.pc with
  | idle => exact .inr (.inl rfl)
  | lock => exact .inl ⟨.acquire t, rfl, enabled (.acquire hth hp ho)⟩
  | wait =>
    cases hn : th.notified with
    | false => exact .inr (.inr ⟨rfl, rfl⟩)
    | true => exact .inl ⟨.wake t, rfl, enabled (.wake hth hp hn)⟩
  | relock g =>
    refine .inl ⟨.reacq t, rfl, ?_⟩
    cases g with
    | true => exact enabled (.reacqGot hth ho hp)
    | false =>
      cases hw : c.isWriter t with
      | true => exact enabled (.reacqLostW hth ho hp hw)
      | false => exact enabled (.reacqLostR hth ho hp hw)
  | check | act | note | leave _ =>
    exact .inl (enabled_of_running c s t th hth (.inl ((Pc.holds_iff _).mpr (by rw [hp]; rfl))))
  | fin x => exact .inl (enabled_of_running c s t th hth (.inr ⟨x, hp⟩))

theorem progress (c : Cfg) (s : State) (hi : Inv c s) :
    (∃ a, a.internal = true ∧ (step c s a).isSome = true) ∨ Quiescent c s := by
  have g := hi.good
  obtain ⟨w, r, hthr, _⟩ := hi
  have hw : s.thr[0]? = some w := by rw [hthr]; rfl
  have hr : s.thr[1]? = some r := by rw [hthr]; rfl
  rw [th_eq hw, th_eq hr] at g
  cases ho : s.owner with
  | some t =>
    rcases g.ownR t ho with rfl | rfl
    · exact .inl (enabled_of_running c s 0 w hw (.inl (g.own0.mp ho)))
    · exact .inl (enabled_of_running c s 1 r hr (.inl (g.own1.mp ho)))
  | none =>
    rcases thread_progress c hw ho with h | hwq
    · exact .inl h
    rcases thread_progress c hr ho with h | hrq
    · exact .inl h
    -- what is left: each thread idle, or parked and not notified
    have hwn : w.pc ≠ .note := by rcases hwq with h | ⟨h, _⟩ <;> rw [h] <;> nofun
    have hrn : r.pc ≠ .note := by rcases hrq with h | ⟨h, _⟩ <;> rw [h] <;> nofun
    right
    rw [Quiescent, th_eq hw, th_eq hr]
    refine ⟨ho, ?_, ?_, ?_⟩
    · exact hwq.imp_right fun ⟨h, hn⟩ => ⟨h, hn, isFull_iff.mpr ((g.wWait h hn).resolve_right hrn)⟩
    · exact hrq.imp_right fun ⟨h, hn⟩ => ⟨h, hn, (g.rWait h hn).resolve_right hwn⟩
    · rcases hwq with h | hwp
      · exact .inl h
      · exact .inr (hrq.resolve_right fun hrp => g.not_both_parked ⟨hwp, hrp⟩)

/-- From a quiescent state with the writer parked, the reader's next call goes through without waiting, step by
    step, and its `notify()` releases the writer's waiter lock. -/
theorem parked_writer_released (c : Cfg) (h1 : c.nw = 1) (s : State) (hi : Inv c s) (m : Mode)
    (hq : Quiescent c s) (hw : (s.th 0).pc = .wait) :
    ∃ s', Core.run (step c) s [.call 1 m 0, .acquire 1, .check 1, .act 1, .notify 1] = some s' ∧
      (s'.th 0).notified = true ∧ (s'.th 0).pc = .wait ∧ s'.q.length + 1 = s.q.length := by
  have g := hi.good
  obtain ⟨w, r, hthr, _⟩ := hi
  obtain ⟨q, owner, thr, nfW, neW, putH, gotH⟩ := s
  cases hthr
  obtain ⟨hown, hq0, _, hq2⟩ := hq
  obtain rfl : owner = none := hown
  have hw : w.pc = .wait := hw
  have hri : r.pc = .idle := hq2.resolve_left fun h => nomatch hw.symm.trans h
  obtain ⟨_, hwn, hfull⟩ := hq0.resolve_left fun h => nomatch hw.symm.trans h
  obtain ⟨h0, hle⟩ := isFull_iff.mp hfull
  obtain rfl : nfW = [0] := g.nf.trans (if_pos ⟨.inl hw, hwn⟩)
  cases q with
  | nil => exact absurd hle (Nat.not_le.mpr h0)
  | cons x rest =>
    have hr1 : c.isWriter 1 = false := by simp [Cfg.isWriter, h1]
    refine ⟨{ q := rest, owner := some 1, nfW := [], neW := neW, putH := putH, gotH := gotH ++ [x],
              thr := [{ w with notified := true },
                      { pc := .leave .ok, mode := m, val := x, notified := false, fired := false }] },
      run_step (.call rfl hri) (run_step (.acquire rfl rfl rfl)
        (run_step (.checkGo rfl rfl ((goes_reader h1).mpr (List.cons_ne_nil x rest)))
          (run_step (.actR rfl rfl hr1 rfl) (run_step (.notifyRSome rfl rfl hr1 rfl) rfl)))), rfl, hw, rfl⟩

/-- The same for a parked reader and the writer's next call. -/
theorem parked_reader_released (c : Cfg) (h1 : c.nw = 1) (s : State) (hi : Inv c s) (m : Mode) (x : Nat)
    (hq : Quiescent c s) (hw : (s.th 1).pc = .wait) :
    ∃ s', Core.run (step c) s [.call 0 m x, .acquire 0, .check 0, .act 0, .notify 0] = some s' ∧
      (s'.th 1).notified = true ∧ (s'.th 1).pc = .wait ∧ s'.q = [x] := by
  have g := hi.good
  obtain ⟨w, r, hthr, _⟩ := hi
  obtain ⟨q, owner, thr, nfW, neW, putH, gotH⟩ := s
  cases hthr
  obtain ⟨hown, _, hq1, hq2⟩ := hq
  obtain rfl : owner = none := hown
  have hw : r.pc = .wait := hw
  have hwi : w.pc = .idle := hq2.resolve_right fun h => nomatch hw.symm.trans h
  obtain ⟨_, hrn, hempty⟩ := hq1.resolve_left fun h => nomatch hw.symm.trans h
  obtain rfl : q = [] := hempty
  obtain rfl : neW = [1] := g.ne.trans (if_pos ⟨.inl hw, hrn⟩)
  have hw0 : c.isWriter 0 = true := by simp [Cfg.isWriter, h1]
  refine ⟨{ q := [x], owner := some 0, nfW := nfW, neW := [], putH := putH ++ [x], gotH := gotH,
            thr := [{ pc := .leave .ok, mode := m, val := x, notified := false, fired := false },
                    { r with notified := true }] },
    run_step (.call rfl hwi) (run_step (.acquire rfl rfl rfl)
      (run_step (.checkGo rfl rfl ((goes_writer h1).mpr fun h => absurd h.2 (Nat.not_le.mpr h.1)))
        (run_step (.actW rfl rfl hw0) (run_step (.notifyWSome rfl rfl hw0 rfl) ?_)))), rfl, hw, rfl⟩
  rw [if_pos hw0]
  rfl

local macro "mu_tac" s:ident t:ident hthr:ident hs:ident : tactic => `(tactic| (
  cases $hs:ident <;> (
    have hth : ($s).thr[$t]? = some ‹Thr› := by assumption
    rw [$hthr:ident] at hth
    rcases $t:ident with _ | _ | t
    · simp at hth; subst hth
      simp only [mu, State.th, setThr, $hthr:ident, List.set_cons_zero, List.set_cons_succ, markNotified_pc]
      simp [*]
    · simp at hth; subst hth
      simp only [mu, State.th, setThr, $hthr:ident, List.set_cons_zero, List.set_cons_succ, markNotified_pc]
      simp [*]
    · simp at hth)))

end Lane
