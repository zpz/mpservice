import MpsVerif.Model.ProxyCall
/-! Step lemmas for the proxy machinery (`Model/ProxyCall.lean`). -/
namespace ProxyCall

variable {H Op : Type}

/-- the table after a call: `managed()` / a typed method adds the entry of the returned object -/
def hostedAfter (hosted : Nat → Bool) : Res → Nat → Bool
  | .alias a => fun j => if j = a then true else hosted j
  | .typed a => fun j => if j = a then true else hosted j
  | _ => hosted

theorem serverCall_hosted (sem : Sem H Op) (S : Server H) (i : Nat) (op : Op) (hh : S.hosted i = true) :
    serverCall sem S i op =
      ({ heap := (sem.call S.heap i op).1, hosted := hostedAfter S.hosted (sem.call S.heap i op).2 },
       match (sem.call S.heap i op).2 with
       | .val v => .ret v | .vals vs => .retVals vs | .alias a => .retProxy a | .typed a => .proxy a
       | .raised e => .error e) := by
  unfold serverCall
  rw [if_pos hh]
  rcases sem.call S.heap i op with ⟨h, r⟩
  cases r <;> rfl

theorem proxyStep_hosted (sem : Sem H Op) (P : PState H) (r : Req Op) (hh : P.srv.hosted r.i = true) :
    proxyStep sem P r =
      ({ srv := { heap := (sem.call P.srv.heap r.i r.op).1,
                  hosted := hostedAfter P.srv.hosted (sem.call P.srv.heap r.i r.op).2 },
         conn := fun c => if c = r.c then true else P.conn c },
       view (sem.call P.srv.heap r.i r.op).2) := by
  unfold proxyStep
  rw [serverCall_hosted sem P.srv r.i r.op hh]
  rcases sem.call P.srv.heap r.i r.op with ⟨h, res⟩
  cases res <;> rfl

theorem proxyStep_unhosted (sem : Sem H Op) (P : PState H) (r : Req Op) (hh : P.srv.hosted r.i = false) :
    proxyStep sem P r =
      ({ srv := P.srv, conn := fun c => if c = r.c then true else P.conn c }, .remoteError) := by
  unfold proxyStep serverCall
  rw [if_neg (by rw [hh]; exact Bool.noConfusion)]
  rfl

theorem hostedAfter_mono {hosted : Nat → Bool} {r : Res} {j : Nat} (h : hosted j = true) :
    hostedAfter hosted r j = true := by
  cases r <;> simp [hostedAfter, h]

/-- entries are never removed by calls (removal is reference counting, C13) and connections stay open -/
theorem proxyStep_mono (sem : Sem H Op) (P : PState H) (r : Req Op) :
    (∀ j, P.srv.hosted j = true → (proxyStep sem P r).1.srv.hosted j = true) ∧
    (∀ c, P.conn c = true → (proxyStep sem P r).1.conn c = true) ∧
    (proxyStep sem P r).1.conn r.c = true := by
  have hconn : ∀ c, P.conn c = true → (if c = r.c then true else P.conn c) = true :=
    fun c hc => by simp [hc]
  cases hh : P.srv.hosted r.i with
  | true =>
    rw [proxyStep_hosted sem P r hh]
    exact ⟨fun _ => hostedAfter_mono, hconn, if_pos rfl⟩
  | false =>
    rw [proxyStep_unhosted sem P r hh]
    exact ⟨fun j hj => hj, hconn, if_pos rfl⟩

theorem proxyRun_cons (sem : Sem H Op) (P : PState H) (r : Req Op) (rs : List (Req Op)) :
    proxyRun sem P (r :: rs) =
      ((proxyRun sem (proxyStep sem P r).1 rs).1,
       (proxyStep sem P r).2 :: (proxyRun sem (proxyStep sem P r).1 rs).2) :=
  rfl

theorem proxyRun_mono (sem : Sem H Op) : ∀ (rs : List (Req Op)) (P : PState H),
    (∀ j, P.srv.hosted j = true → (proxyRun sem P rs).1.srv.hosted j = true) ∧
    (∀ c, P.conn c = true → (proxyRun sem P rs).1.conn c = true) ∧
    (∀ r ∈ rs, (proxyRun sem P rs).1.conn r.c = true) := by
  intro rs
  induction rs with
  | nil => exact fun P => ⟨fun _ h => h, fun _ h => h, fun _ h => nomatch h⟩
  | cons r rs ih =>
    intro P
    have h1 := proxyStep_mono sem P r
    have h2 := ih (proxyStep sem P r).1
    rw [proxyRun_cons]
    refine ⟨fun j hj => h2.1 j (h1.1 j hj), fun c hc => h2.2.1 c (h1.2.1 c hc), fun r' hr' => ?_⟩
    rcases List.mem_cons.mp hr' with rfl | hr'
    · exact h2.2.1 _ h1.2.2
    · exact h2.2.2 r' hr'

theorem refines (sem : Sem H Op) : ∀ (rs : List (Req Op)) (P : PState H), Valid sem P rs →
    (proxyRun sem P rs).2 = (directRun sem P.srv.heap (rs.map fun r => (r.i, r.op))).2.map view ∧
    (proxyRun sem P rs).1.srv.heap = (directRun sem P.srv.heap (rs.map fun r => (r.i, r.op))).1 := by
  intro rs
  induction rs with
  | nil => exact fun P _ => ⟨rfl, rfl⟩
  | cons r rs ih =>
    intro P ⟨hh, hv⟩
    have hstep := proxyStep_hosted sem P r hh
    obtain ⟨h1, h2⟩ := ih (proxyStep sem P r).1 hv
    rw [proxyRun_cons, h1, h2, hstep]
    exact ⟨rfl, rfl⟩

end ProxyCall
