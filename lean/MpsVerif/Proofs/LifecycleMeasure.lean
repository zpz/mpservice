import MpsVerif.Proofs.LifecycleWf
/-! A measure that every step of the stop phase decreases: the stop protocol ends in boundedly many steps. -/
namespace Lifecycle

theorem sum_range_congr {N : Nat} {f g : Nat → Nat} (h : ∀ i, i < N → g i = f i) :
    ((List.range N).map g).sum = ((List.range N).map f).sum := by
  rw [List.map_congr_left fun i hi => h i (List.mem_range.mp hi)]

theorem sum_congr (N : Nat) (f g : Nat → Nat) (h : ∀ i, g i = f i) :
    ((List.range N).map g).sum = ((List.range N).map f).sum :=
  sum_range_congr fun i _ => h i

theorem sum_range_upd {N j : Nat} {f g : Nat → Nat} (hj : j < N) (h : ∀ i, i ≠ j → g i = f i) :
    ((List.range N).map g).sum + f j = ((List.range N).map f).sum + g j := by
  induction N with
  | zero => omega
  | succ N ih =>
    simp only [List.range_succ, List.map_append, List.sum_append, List.map_cons, List.map_nil, List.sum_cons,
      List.sum_nil, Nat.add_zero]
    by_cases hN : j = N
    · subst hN
      rw [sum_range_congr fun i hi => h i (Nat.ne_of_lt hi)]
      omega
    · have := ih (by omega)
      rw [h N (Ne.symm hN)]
      omega

def nstop (l : List Msg) : Nat := l.count .stop

/-- value of the content `l` of channel `c`: every data message may still cause `wOf c` steps, every
    sentinel one (its removal) -/
def cval (net : Net) (l : List Msg) (c : Nat) : Nat := ndata l * wOf net c + nstop l

def chanSum (net : Net) (ch : Nat → List Msg) : Nat :=
  ((List.range net.caps.length).map (fun c => cval net (ch c) c)).sum

-- a thread that has not seen the sentinel will still forward it to `souts` and perhaps put it back on its input: 2 for
-- each of these puts, one for the step and one for the sentinel it adds to a queue (`cval`)
def nodePot (net : Net) (ns : Nat → NSt) (n : Nat) : Nat :=
  match net.nodes[n]?, ns n with
  | some nd, .d pend => planCost net pend + 2 * (1 + nd.souts.length)
  | some _, .s pend => 2 * pend.length
  | none, _ => 0

def nodeSum (net : Net) (ns : Nat → NSt) : Nat := ((List.range net.nodes.length).map (nodePot net ns)).sum

-- 2 for each instruction of `__exit__` still to run: one for the step, one for the sentinel a `put` adds to a channel
/-- upper bound on the number of steps still to come once `__exit__` has begun -/
def mu (net : Net) (s : State) : Nat := 2 * s.pc.length + chanSum net s.chans + nodeSum net s.nodes

def mval (net : Net) (c : Nat) : Msg → Nat
  | .data => wOf net c
  | .stop => 1

theorem cval_cons (net : Net) (m : Msg) (l : List Msg) (c : Nat) :
    cval net (m :: l) c = cval net l c + mval net c m := by
  cases m <;> simp [cval, mval, ndata, nstop, Nat.add_mul] <;> omega

theorem cval_append (net : Net) (m : Msg) (l : List Msg) (c : Nat) :
    cval net (l ++ [m]) c = cval net l c + mval net c m := by
  cases m <;> simp [cval, mval, ndata, nstop, List.count_append, Nat.add_mul] <;> omega

theorem chanSum_upd (net : Net) (ch : Nat → List Msg) (c : Nat) (l : List Msg) (hc : c < net.caps.length) :
    chanSum net (upd ch c l) + cval net (ch c) c = chanSum net ch + cval net l c := by
  have := sum_range_upd (f := fun c => cval net (ch c) c) (g := fun c' => cval net (upd ch c l c') c') hc
    fun i hi => by rw [upd_ne hi]
  rwa [upd_same] at this

theorem chanSum_take (net : Net) (ch : Nat → List Msg) (c : Nat) (m : Msg) (rest : List Msg) (hc : c < net.caps.length)
    (hq : ch c = m :: rest) : chanSum net (upd ch c rest) + mval net c m = chanSum net ch := by
  have := chanSum_upd net ch c rest hc
  rw [hq, cval_cons] at this
  omega

theorem chanSum_put (net : Net) (ch : Nat → List Msg) (c : Nat) (m : Msg) :
    chanSum net (upd ch c (ch c ++ [m])) ≤ chanSum net ch + mval net c m := by
  by_cases hc : c < net.caps.length
  · have := chanSum_upd net ch c (ch c ++ [m]) hc
    rw [cval_append] at this
    omega
  · have : chanSum net (upd ch c (ch c ++ [m])) = chanSum net ch :=
      sum_range_congr fun i hi => by rw [upd_ne (by omega)]
    omega

theorem nodePot_d {net : Net} {ns : Nat → NSt} {n : Nat} {nd : NodeDesc} {pend : List Nat}
    (hnd : net.nodes[n]? = some nd) (hn : ns n = .d pend) :
    nodePot net ns n = planCost net pend + 2 * (1 + nd.souts.length) := by
  rw [nodePot, hnd, hn]

theorem nodePot_s {net : Net} {ns : Nat → NSt} {n : Nat} {nd : NodeDesc} {pend : List Nat}
    (hnd : net.nodes[n]? = some nd) (hn : ns n = .s pend) : nodePot net ns n = 2 * pend.length := by
  rw [nodePot, hnd, hn]

theorem nodeSum_upd (net : Net) (ns : Nat → NSt) (n : Nat) (v : NSt) (hn : n < net.nodes.length) :
    nodeSum net (upd ns n v) + nodePot net ns n = nodeSum net ns + nodePot net (upd ns n v) n :=
  sum_range_upd hn fun i hi => by rw [nodePot, nodePot, upd_ne hi]

theorem planCost_nil (net : Net) : planCost net [] = 0 := rfl

theorem planCost_cons (net : Net) (c : Nat) (r : List Nat) : planCost net (c :: r) = 1 + wOf net c + planCost net r := by
  simp [planCost]

theorem planCost_mem (net : Net) (plan : List Nat) (c : Nat) (h : c ∈ plan) : 1 + wOf net c ≤ planCost net plan := by
  induction plan with
  | nil => cases h
  | cons d r ih =>
    rw [planCost_cons]
    rcases List.mem_cons.mp h with h | h
    · subst h
      omega
    · have := ih h
      omega

theorem stopping_step (net : Net) (s : State) (a : Act) (s' : State) (h : s.stopping = true)
    (hs : Step net s a s') : s'.stopping = true := by
  cases hs with
  | mainPut _ | mainJoin _ _ | mainClear _ => rfl
  | _ => exact h

theorem mu_decreases (net : Net) (wf : WF net) (s : State) (a : Act) (s' : State) (hstop : s.stopping = true)
    (hs : Step net s a s') : mu net s' < mu net s := by
  cases hs with
  | inject h0 => rw [hstop] at h0; cases h0
  | @getData n c k nd rest plan hnd hn hc hq hpl =>
    have hw := wf.weight n nd hnd c hc plan (List.mem_of_getElem? hpl)
    have h1 := chanSum_take net s.chans c _ rest (wf.insRange n nd hnd c hc) hq
    have h2 := nodeSum_upd net s.nodes n (.d plan) (lt_of_getElem? hnd)
    rw [nodePot_d hnd hn, nodePot_d hnd upd_same, planCost_nil] at h2
    simp only [mu, mval] at h1 ⊢
    omega
  | @getStop n c nd rest hnd hn hc hq hw =>
    have h1 := chanSum_take net s.chans c _ rest (wf.insRange n nd hnd c hc) hq
    have h2 := nodeSum_upd net s.nodes n (.s ((if nd.rebro then [c] else []) ++ nd.souts)) (lt_of_getElem? hnd)
    rw [nodePot_d hnd hn, nodePot_s hnd upd_same, planCost_nil, List.length_append] at h2
    have : (if nd.rebro = true then [c] else []).length ≤ 1 := by split <;> simp
    simp only [mu, mval] at h1 ⊢
    omega
  | @getStopWait n c nd rest hnd hn hc hq hw =>
    have h1 := chanSum_take net s.chans c _ rest (wf.insRange n nd hnd c hc) hq
    simp only [mu, mval] at h1 ⊢
    omega
  | @putData n c rest hlt hn hroom =>
    have hnd := List.getElem?_eq_getElem hlt
    have h1 := chanSum_put net s.chans c .data
    have h2 := nodeSum_upd net s.nodes n (.d rest) hlt
    rw [nodePot_d hnd hn, nodePot_d hnd upd_same, planCost_cons] at h2
    simp only [mu, mval] at h1 ⊢
    omega
  | @putStop n c rest hlt hn =>
    have hnd := List.getElem?_eq_getElem hlt
    have h1 := chanSum_put net s.chans c .stop
    have h2 := nodeSum_upd net s.nodes n (.s rest) hlt
    rw [nodePot_s hnd hn, nodePot_s hnd upd_same, List.length_cons] at h2
    simp only [mu, mval] at h1 ⊢
    omega
  | @mainPut c rest hpc =>
    have h1 := chanSum_put net s.chans c .stop
    simp only [mu, mval, hpc, List.length_cons] at h1 ⊢
    omega
  | @mainJoin n rest hpc hn => simp only [mu, hpc, List.length_cons]; omega
  | @mainClear rest hpc => simp only [mu, hpc, List.length_cons]; omega

theorem stop_terminates (net : Net) (wf : WF net) (s : State) (hstop : s.stopping = true) (as : List Act) (s' : State)
    (hrun : Core.run (step net) s as = some s') : as.length ≤ mu net s :=
  Nat.le_of_add_right_le <| Core.length_le_measure_inv (step := step net) (mu net) (fun s => s.stopping = true)
    (fun s a s' hi hs => stopping_step net s a s' hi (step_sound net s s' a hs))
    (fun s a s' hi hs => mu_decreases net wf s a s' hi (step_sound net s s' a hs)) as s s' hstop hrun

end Lifecycle
