import MpsVerif.Proofs.LifecycleLive
/-! The network compiled from ANY servlet tree (every servlet with at least one worker) is well-formed.

`WF.of_parts` assembles `WF` from five facts about the whole server.  Each is proved per subtree by induction on the
tree, with the subtree's queues and its place in the global lists of weights and threads (`Seg`) as parameters. -/
namespace Lifecycle

/-- every servlet has at least one worker (`num_threads or 1`, `cpus` non-empty in the real code) -/
def Tree.pos : Tree → Prop
  | .simple k _ => 1 ≤ k
  | .seq a b => a.pos ∧ b.pos
  | .ens a b => a.pos ∧ b.pos
  | .sw a b => a.pos ∧ b.pos

@[simp] theorem chansT_length (K : Nat) (t : Tree) (w : Nat) : (chansT K t w).length = t.nchan := by
  induction t generalizing w with
  | simple k p => rfl
  | seq a b iha ihb | ens a b iha ihb | sw a b iha ihb =>
    simp only [chansT, Tree.nchan, List.length_cons, List.length_append, List.length_nil, iha, ihb]
    omega

@[simp] theorem nodesT_length (t : Tree) (cin cout cb : Nat) : (nodesT t cin cout cb).length = t.nnode := by
  induction t generalizing cin cout cb with
  | simple k p => exact List.length_replicate
  | seq a b iha ihb | ens a b iha ihb | sw a b iha ihb =>
    simp only [nodesT, Tree.nnode, List.length_append, List.length_cons, List.length_nil, iha, ihb]

def Seg {α : Type} (l : List α) (b : Nat) (L : List α) : Prop := ∀ j x, l[j]? = some x → L[b + j]? = some x

theorem seg_cons {α : Type} {x : α} {l L : List α} {b : Nat} :
    Seg (x :: l) b L ↔ L[b]? = some x ∧ Seg l (b + 1) L := by
  constructor
  · intro h
    refine ⟨h 0 x rfl, fun j y hj => ?_⟩
    rw [Nat.add_assoc, Nat.add_comm 1]
    exact h (j + 1) y hj
  · rintro ⟨h0, h⟩ j y hj
    cases j with
    | zero =>
      rw [List.getElem?_cons_zero] at hj
      exact hj ▸ h0
    | succ j =>
      rw [← Nat.add_assoc, Nat.add_right_comm]
      exact h j y hj

theorem seg_append {α : Type} {l₁ l₂ L : List α} {b : Nat} :
    Seg (l₁ ++ l₂) b L ↔ Seg l₁ b L ∧ Seg l₂ (b + l₁.length) L := by
  constructor
  · intro h
    refine ⟨fun j x hj => h j x ?_, fun j x hj => ?_⟩
    · rw [List.getElem?_append_left (lt_of_getElem? hj)]
      exact hj
    · rw [Nat.add_assoc]
      refine h (l₁.length + j) x ?_
      rw [List.getElem?_append_right (Nat.le_add_right _ _), Nat.add_sub_cancel_left]
      exact hj
  · rintro ⟨h1, h2⟩ j x hj
    rw [List.getElem?_append] at hj
    split at hj
    · exact h1 j x hj
    · have := h2 _ x hj
      rwa [Nat.add_assoc, Nat.add_sub_cancel' (by omega)] at this

theorem seg_of_eq {α : Type} {l L : List α} (h : L = l) : Seg l 0 L := fun j x hj => by rwa [h, Nat.zero_add]

structure NodeLoc (cin cb n : Nat) (nd : NodeDesc) : Prop where
  ins : ∀ c ∈ nd.ins, c = cin ∨ (cb ≤ c ∧ c < cb + n)
  plansNe : nd.plans ≠ []
  allOk : nd.all = true → nd.rebro = false ∧ nd.ins ≠ []

namespace NodeLoc

theorem mono {cin cb n cin' cb' n' : Nat} {nd : NodeDesc} (h : NodeLoc cin' cb' n' nd)
    (hi : cin' = cin ∨ (cb ≤ cin' ∧ cin' < cb + n)) (hw : cb ≤ cb' ∧ cb' + n' ≤ cb + n) :
    NodeLoc cin cb n nd := by
  refine ⟨fun c hc => ?_, h.plansNe, h.allOk⟩
  rcases h.ins c hc with rfl | ⟨h1, h2⟩
  · exact hi
  · exact Or.inr ⟨Nat.le_trans hw.1 h1, Nat.lt_of_lt_of_le h2 hw.2⟩

end NodeLoc

theorem nodesT_loc {t : Tree} {cin cout cb : Nat} :
    ∀ nd ∈ nodesT t cin cout cb, NodeLoc cin cb t.nchan nd := by
  induction t generalizing cin cout cb with
  | simple k p =>
    intro nd hnd
    obtain ⟨_, rfl⟩ := List.mem_replicate.mp hnd
    exact ⟨fun c hc => Or.inl (List.mem_singleton.mp hc), List.cons_ne_nil _ _, fun h => nomatch h⟩
  | seq a b iha ihb =>
    simp only [nodesT, Tree.nchan, List.forall_mem_append]
    exact ⟨fun nd h => (iha nd h).mono (by omega) (by omega),
      fun nd h => (ihb nd h).mono (by omega) (by omega)⟩
  | ens a b iha ihb =>
    simp only [nodesT, Tree.nchan, List.forall_mem_append, List.forall_mem_cons, List.not_mem_nil, false_imp_iff,
      implies_true, and_true]
    refine ⟨⟨fun nd h => (iha nd h).mono (by omega) (by omega),
      fun nd h => (ihb nd h).mono (by omega) (by omega)⟩, ?_, ?_⟩
    · refine ⟨fun c hc => ?_, List.cons_ne_nil _ _, fun _ => ⟨rfl, List.cons_ne_nil _ _⟩⟩
      simp only [List.mem_cons, List.not_mem_nil, or_false] at hc
      omega
    · exact ⟨fun c hc => Or.inl (List.mem_singleton.mp hc), List.cons_ne_nil _ _, fun h => nomatch h⟩
  | sw a b iha ihb =>
    simp only [nodesT, Tree.nchan, List.forall_mem_append, List.forall_mem_singleton]
    exact ⟨⟨fun nd h => (iha nd h).mono (by omega) (by omega),
      fun nd h => (ihb nd h).mono (by omega) (by omega)⟩,
      fun c hc => Or.inl (List.mem_singleton.mp hc), List.cons_ne_nil _ _, fun h => nomatch h⟩

theorem win_ge (t : Tree) (w : Nat) : w + 2 ≤ win t w := by
  induction t generalizing w with
  | simple k p => simp only [win]; omega
  | seq a b iha ihb => simp only [win]; have := ihb w; have := iha (win b w); omega
  | ens a b iha ihb => simp only [win]; have := iha (2 + w); omega
  | sw a b iha ihb => simp only [win]; omega

theorem wOf_of_getElem? {net : Net} {c w : Nat} (h : net.ws[c]? = some w) : wOf net c = w := by
  rw [wOf, h]; rfl

theorem nodesT_weight {net : Net} {K : Nat} {t : Tree} {cin cout cb wout : Nat}
    (hin : wOf net cin = win t wout) (hout : wOf net cout = wout)
    (hch : Seg ((chansT K t wout).map Prod.snd) cb net.ws) :
    ∀ nd ∈ nodesT t cin cout cb, ∀ c ∈ nd.ins, ∀ plan ∈ nd.plans, 1 + planCost net plan ≤ wOf net c := by
  induction t generalizing cin cout cb wout with
  | simple k p =>
    intro nd hnd
    obtain ⟨_, rfl⟩ := List.mem_replicate.mp hnd
    simp only [workerDesc, List.forall_mem_singleton, planCost_cons, planCost_nil, hin, hout, win]
    omega
  | seq a b iha ihb =>
    simp only [chansT, List.map_cons, List.map_append, seg_cons, seg_append, List.length_map, chansT_length] at hch
    obtain ⟨hmid, hA, hB⟩ := hch
    have hmid := wOf_of_getElem? hmid
    simp only [nodesT, List.forall_mem_append]
    exact ⟨iha hin hmid hA, ihb hmid hout hB⟩
  | ens a b iha ihb =>
    simp only [chansT, List.cons_append, List.nil_append, List.map_cons, List.map_append, seg_cons, seg_append,
      List.length_map, chansT_length] at hch
    obtain ⟨h0, h1, h2, h3, hA, hB⟩ := hch
    have h0 := wOf_of_getElem? h0
    have h1 := wOf_of_getElem? h1
    have h2 := wOf_of_getElem? h2
    have h3 := wOf_of_getElem? h3
    simp only [nodesT, List.forall_mem_append, List.forall_mem_cons, List.not_mem_nil, false_imp_iff, implies_true,
      and_true]
    refine ⟨⟨iha h0 h1 hA, ihb h2 h3 hB⟩, ?_, ?_⟩
    · simp only [planCost_cons, planCost_nil, h1, h3, hout]
      omega
    · have := win_ge a (2 + wout)
      simp only [planCost_cons, planCost_nil, h0, h2, hin, hout, win]
      omega
  | sw a b iha ihb =>
    simp only [chansT, List.cons_append, List.nil_append, List.map_cons, List.map_append, seg_cons, seg_append,
      List.length_map, chansT_length] at hch
    obtain ⟨h0, h1, hA, hB⟩ := hch
    have h0 := wOf_of_getElem? h0
    have h1 := wOf_of_getElem? h1
    simp only [nodesT, List.forall_mem_append, List.forall_mem_cons, List.not_mem_nil, false_imp_iff, implies_true,
      and_true]
    refine ⟨⟨iha h0 hout hA, ihb h1 hout hB⟩, ?_⟩
    simp only [planCost_cons, planCost_nil, h0, h1, hin, hout, win]
    omega

def Apart (x y : NodeDesc) : Prop := ∀ c ∈ x.ins, c ∈ y.ins → x.rebro = true ∧ y.rebro = true

theorem uniq_of_pairwise {L : List NodeDesc} (h : L.Pairwise Apart) (n : Nat) (nd : NodeDesc) (hn : L[n]? = some nd)
    (hr : nd.rebro = false) (c : Nat) (hc : c ∈ nd.ins) (m : Nat) (md : NodeDesc) (hm : L[m]? = some md)
    (hcm : c ∈ md.ins) : m = n := by
  obtain ⟨hn', rfl⟩ := List.getElem?_eq_some_iff.mp hn
  obtain ⟨hm', rfl⟩ := List.getElem?_eq_some_iff.mp hm
  rw [List.pairwise_iff_getElem] at h
  rcases Nat.lt_trichotomy m n with hlt | heq | hgt
  · have := (h m n hm' hn' hlt c hcm hc).2
    rw [hr] at this
    cases this
  · exact heq
  · have := (h n m hn' hm' hgt c hc hcm).1
    rw [hr] at this
    cases this

theorem apart_members {a b : Tree} {ia oa ba ib ob bb : Nat} (ha : (nodesT a ia oa ba).Pairwise Apart)
    (hb : (nodesT b ib ob bb).Pairwise Apart)
    (hd : ∀ c, (c = ia ∨ (ba ≤ c ∧ c < ba + a.nchan)) → (c = ib ∨ (bb ≤ c ∧ c < bb + b.nchan)) → False) :
    (nodesT a ia oa ba ++ nodesT b ib ob bb).Pairwise Apart :=
  List.pairwise_append.mpr ⟨ha, hb, fun x hx y hy c hcx hcy =>
    (hd c ((nodesT_loc x hx).ins c hcx) ((nodesT_loc y hy).ins c hcy)).elim⟩

theorem nodesT_apart (t : Tree) (cin cout cb : Nat) (hcin : cin < cb) : (nodesT t cin cout cb).Pairwise Apart := by
  induction t generalizing cin cout cb with
  | simple k p => exact List.pairwise_replicate.mpr (Or.inr fun _ _ _ => ⟨rfl, rfl⟩)
  | seq a b iha ihb => exact apart_members (iha _ _ _ (by omega)) (ihb _ _ _ (by omega)) (by omega)
  | ens a b iha ihb =>
    have hab := apart_members (iha cb (cb + 1) (cb + 4) (by omega))
      (ihb (cb + 2) (cb + 3) (cb + 4 + a.nchan) (by omega)) (by omega)
    refine List.pairwise_append.mpr ⟨hab, List.pairwise_pair.mpr fun c hc hc' => ?_, fun x hx y hy c hcx hcy => ?_⟩
    · simp only [List.mem_cons, List.not_mem_nil, or_false] at hc hc'
      omega
    · have : c = cb ∨ c = cb + 2 ∨ cb + 4 ≤ c := by
        rcases List.mem_append.mp hx with hx | hx
        · have := (nodesT_loc x hx).ins c hcx
          omega
        · have := (nodesT_loc x hx).ins c hcx
          omega
      simp only [List.mem_cons, List.not_mem_nil, or_false] at hy
      rcases hy with rfl | rfl
      · simp only [List.mem_cons, List.not_mem_nil, or_false] at hcy
        omega
      · simp only [List.mem_cons, List.not_mem_nil, or_false] at hcy
        omega
  | sw a b iha ihb =>
    have hab := apart_members (iha cb cout (cb + 2) (by omega)) (ihb (cb + 1) cout (cb + 2 + a.nchan) (by omega))
      (by omega)
    refine List.pairwise_append.mpr ⟨hab, List.pairwise_singleton _ _, fun x hx y hy c hcx hcy => ?_⟩
    obtain rfl := List.mem_singleton.mp hy
    obtain rfl := List.mem_singleton.mp hcy
    rcases List.mem_append.mp hx with hx | hx
    · have := (nodesT_loc x hx).ins c hcx
      omega
    · have := (nodesT_loc x hx).ins c hcx
      omega

theorem join_mem_scriptT (t : Tree) (cin cb nb n : Nat) :
    Instr.join n ∈ scriptT t cin cb nb ↔ nb ≤ n ∧ n < nb + t.nnode := by
  induction t generalizing cin cb nb with
  | simple k p =>
    simp only [scriptT, Tree.nnode, List.mem_cons, reduceCtorEq, false_or, List.mem_map, List.mem_range,
      Instr.join.injEq]
    exact ⟨fun ⟨i, hi, h⟩ => by omega, fun h => ⟨n - nb, by omega, by omega⟩⟩
  | seq a b iha ihb | ens a b iha ihb | sw a b iha ihb =>
    simp only [scriptT, Tree.nnode, List.mem_append, List.mem_cons, List.not_mem_nil, or_false, reduceCtorEq, false_or,
      Instr.join.injEq, iha, ihb]
    omega

def FedL (NS : List NodeDesc) (c : Nat) (pre : List Instr) : Prop :=
  ∃ i ∈ pre, i = Instr.put c ∨ ∃ (m : Nat) (md : NodeDesc), i = Instr.join m ∧ NS[m]? = some md ∧ c ∈ md.souts

theorem fed_iff (net : Net) (c : Nat) (pre : List Instr) : Fed net c pre ↔ FedL net.nodes c pre := Iff.rfl

variable {pre pre' done sc : List Instr} {c : Nat}

namespace FedL

theorem mono (h : FedL NS c pre)
    (hsub : ∀ i ∈ pre, i ∈ pre') : FedL NS c pre' := by
  obtain ⟨i, hi, h⟩ := h
  exact ⟨i, hsub i hi, h⟩

theorem put (h : Instr.put c ∈ pre) : FedL NS c pre :=
  ⟨_, h, Or.inl rfl⟩

theorem join {m : Nat} {md : NodeDesc} (h : Instr.join m ∈ pre)
    (hm : NS[m]? = some md) (hc : c ∈ md.souts) : FedL NS c pre :=
  ⟨_, h, Or.inr ⟨m, md, rfl, hm, hc⟩⟩

end FedL

/-- what `WF.fed` asks of the instructions `pre` that come before the join of thread `nd` -/
def FedNode (NS : List NodeDesc) (nd : NodeDesc) (pre : List Instr) : Prop :=
  (nd.all = false → ∃ c ∈ nd.ins, FedL NS c pre) ∧ (nd.all = true → ∀ c ∈ nd.ins, FedL NS c pre)

namespace FedNode

theorem of_put (ha : nd.all = false) (hc : c ∈ nd.ins) (h : Instr.put c ∈ pre) : FedNode NS nd pre :=
  ⟨fun _ => ⟨c, hc, .put h⟩, fun h => nomatch ha.symm.trans h⟩

theorem mono (h : FedNode NS nd pre)
    (hsub : ∀ i ∈ pre, i ∈ pre') : FedNode NS nd pre' :=
  ⟨fun ha => (h.1 ha).imp fun _ hc => ⟨hc.1, hc.2.mono hsub⟩, fun ha c hc => (h.2 ha c hc).mono hsub⟩

end FedNode

/-- every join in the script `sc`, run after the instructions `done`, finds the inputs of its thread fed -/
def JoinsOk (NS : List NodeDesc) : List Instr → List Instr → Prop
  | _, [] => True
  | done, i :: sc => (∀ n nd, i = .join n → NS[n]? = some nd → FedNode NS nd done) ∧ JoinsOk NS (done ++ [i]) sc

theorem joinsOk_append {A B : List Instr} :
    JoinsOk NS done (A ++ B) ↔ JoinsOk NS done A ∧ JoinsOk NS (done ++ A) B := by
  induction A generalizing done with
  | nil => simp only [List.nil_append, List.append_nil, JoinsOk, true_and]
  | cons i A ih => simp only [List.cons_append, List.nil_append, JoinsOk, ih, List.append_assoc, and_assoc]

namespace JoinsOk

theorem of_done {done sc : List Instr}
    (h : ∀ n nd, Instr.join n ∈ sc → NS[n]? = some nd → FedNode NS nd done) : JoinsOk NS done sc := by
  induction sc generalizing done with
  | nil => trivial
  | cons i sc ih =>
    refine ⟨fun n nd hi => h n nd (hi ▸ List.mem_cons_self), ih fun n nd hn hnd => ?_⟩
    exact (h n nd (List.mem_cons_of_mem _ hn) hnd).mono fun j hj => List.mem_append_left _ hj

end JoinsOk

theorem joinsOk_put :
    JoinsOk NS done (.put c :: sc) ↔ JoinsOk NS (done ++ [.put c]) sc := by
  simp only [JoinsOk, reduceCtorEq, false_imp_iff, implies_true, true_and]

theorem joinsOk_clear :
    JoinsOk NS done (.clear :: sc) ↔ JoinsOk NS (done ++ [.clear]) sc := by
  simp only [JoinsOk, reduceCtorEq, false_imp_iff, implies_true, true_and]

theorem joinsOk_join {n : Nat} (hn : NS[n]? = some nd) :
    JoinsOk NS done (.join n :: sc) ↔ FedNode NS nd done ∧ JoinsOk NS (done ++ [.join n]) sc := by
  simp only [JoinsOk, Instr.join.injEq]
  refine and_congr_left' ⟨fun h => h n nd rfl hn, fun h m md hm hmd => ?_⟩
  subst hm
  rw [hn] at hmd
  cases hmd
  exact h

/-- `stop()` of a subtree, whatever ran before it: every thread it joins has been sent the sentinel, and when it
    returns a sentinel is on its way to the subtree's output queue -/
theorem scriptT_fed {t : Tree} (hpos : t.pos) {NS : List NodeDesc} {cin cout cb nb : Nat}
    (hpl : Seg (nodesT t cin cout cb) nb NS) (done : List Instr) :
    JoinsOk NS done (scriptT t cin cb nb) ∧ FedL NS cout (scriptT t cin cb nb) := by
  induction t generalizing cin cout cb nb done with
  | simple k p =>
    have hw : ∀ i, i < k → NS[nb + i]? = some (workerDesc cin cout) := fun i hi =>
      hpl i _ (by rw [nodesT, List.getElem?_replicate, if_pos hi])
    constructor
    · refine joinsOk_put.mpr (JoinsOk.of_done fun n nd hn hnd => ?_)
      obtain ⟨i, hi, h⟩ := List.mem_map.mp hn
      cases h
      rw [hw i (List.mem_range.mp hi)] at hnd
      cases hnd
      exact .of_put rfl (List.mem_singleton_self _) (List.mem_append_right _ (List.mem_singleton_self _))
    · refine .join (m := nb + 0) (List.mem_cons_of_mem _ (List.mem_map.mpr ⟨0, List.mem_range.mpr hpos, rfl⟩))
        (hw 0 hpos) (List.mem_singleton_self _)
  | seq a b iha ihb =>
    simp only [nodesT, seg_append, nodesT_length] at hpl
    simp only [scriptT, joinsOk_append]
    exact ⟨⟨(iha hpos.1 hpl.1 _).1, (ihb hpos.2 hpl.2 _).1⟩,
      (ihb hpos.2 hpl.2 done).2.mono fun i hi => List.mem_append_right _ hi⟩
  | ens a b iha ihb =>
    simp only [nodesT, seg_append, seg_cons, List.length_append, nodesT_length, ← Nat.add_assoc] at hpl
    obtain ⟨⟨hA, hB⟩, hdeq, henq, _⟩ := hpl
    have ha := iha hpos.1 hA
    have hb := ihb hpos.2 hB
    simp only [scriptT, List.cons_append, List.nil_append, joinsOk_put, joinsOk_join henq, joinsOk_append,
      joinsOk_join hdeq]
    refine ⟨⟨.of_put rfl (List.mem_singleton_self _) (List.mem_append_right _ (List.mem_singleton_self _)),
      ⟨(ha _).1, (hb _).1⟩, ⟨(nomatch ·), fun _ c hc => ?_⟩, trivial⟩, ?_⟩
    · -- `_dequeue` waits for both members: each has been stopped, so each has fed its output queue
      simp only [List.mem_cons, List.not_mem_nil, or_false] at hc
      rcases hc with rfl | rfl
      · exact (ha done).2.mono fun i hi => by simp [hi]
      · exact (hb done).2.mono fun i hi => by simp [hi]
    · exact .join (by simp) hdeq (List.mem_singleton_self _)
  | sw a b iha ihb =>
    simp only [nodesT, seg_append, seg_cons, List.length_append, nodesT_length, ← Nat.add_assoc] at hpl
    obtain ⟨⟨hA, hB⟩, henq, _⟩ := hpl
    have ha := iha hpos.1 hA
    have hb := ihb hpos.2 hB
    simp only [scriptT, List.cons_append, List.nil_append, joinsOk_put, joinsOk_join henq, joinsOk_append]
    exact ⟨⟨.of_put rfl (List.mem_singleton_self _) (List.mem_append_right _ (List.mem_singleton_self _)), (ha _).1,
        (hb _).1⟩,
      (ha done).2.mono fun i hi => by simp [hi]⟩

structure NodeGood (net : Net) (nd : NodeDesc) : Prop where
  weight : ∀ c ∈ nd.ins, ∀ plan ∈ nd.plans, 1 + planCost net plan ≤ wOf net c
  plansNe : nd.plans ≠ []
  allOk : nd.all = true → nd.rebro = false ∧ nd.ins ≠ []
  insRange : ∀ c ∈ nd.ins, c < net.caps.length

namespace WF

theorem of_parts {net : Net} (node : ∀ nd ∈ net.nodes, NodeGood net nd) (apart : net.nodes.Pairwise Apart)
    (joins : ∀ n, Instr.join n ∈ net.script ↔ n < net.nodes.length) (fed : JoinsOk net.nodes [] net.script)
    (clear : Instr.clear ∈ net.script) : WF net where
  weight n nd h := (node nd (List.mem_of_getElem? h)).weight
  joined n := (joins n).mpr
  fed n nd h pre rest hs := by
    rw [hs, joinsOk_append, joinsOk_join h] at fed
    exact fed.2.1
  allOk n nd h := (node nd (List.mem_of_getElem? h)).allOk
  plansNe n nd h := (node nd (List.mem_of_getElem? h)).plansNe
  uniq := uniq_of_pairwise apart
  insRange n nd h := (node nd (List.mem_of_getElem? h)).insRange
  clear := clear
  joinRange n := (joins n).mp

end WF

/-- the gather thread and the onboarding thread as `compileServer` writes them -/
def gatherDesc : NodeDesc := { ins := [1], plans := [[]], souts := [], rebro := false, sink := true }
def onboardDesc (buf : Nat) : NodeDesc := { ins := [buf], plans := [[0]], souts := [0], rebro := false, sink := false }

/-- the queues of the server: `_q_in`, `_q_out`, those of the tree, and the onboarding buffer if `_q_in` is a pipe -/
def chsOf (K : Nat) (t : Tree) : List (Option Nat × Nat) :=
  (pipe K t.inThread, win t 1) :: (pipe K t.outThread, 1) :: chansT K t 1 ++
    if t.inThread then [] else [(none, 2 + win t 1)]

theorem compileServer_nodes (K : Nat) (t : Tree) : (compileServer K t).nodes =
    nodesT t 0 1 2 ++ gatherDesc :: if t.inThread then [] else [onboardDesc (2 + t.nchan)] := by
  unfold compileServer
  cases t.inThread
  · exact List.append_assoc ..
  · rfl

theorem compileServer_script (K : Nat) (t : Tree) : (compileServer K t).script =
    (if t.inThread then [] else [.put (2 + t.nchan), .join (t.nnode + 1)]) ++ scriptT t 0 2 0 ++
      [.join t.nnode, .clear] := by
  unfold compileServer
  cases t.inThread
  · rfl
  · exact List.append_assoc ..

theorem compileServer_ws (K : Nat) (t : Tree) : (compileServer K t).ws = (chsOf K t).map Prod.snd := by
  unfold compileServer chsOf
  cases t.inThread
  · rfl
  · exact congrArg (List.map _) (List.append_nil _).symm

theorem compileServer_caps (K : Nat) (t : Tree) : (compileServer K t).caps = (chsOf K t).map Prod.fst := by
  unfold compileServer chsOf
  cases t.inThread
  · rfl
  · exact congrArg (List.map _) (List.append_nil _).symm

theorem nodeGood_single {net : Net} {c : Nat} {plan souts : List Nat} {rebro sink : Bool}
    (hw : 1 + planCost net plan ≤ wOf net c) (hc : c < net.caps.length) :
    NodeGood net { ins := [c], plans := [plan], souts := souts, rebro := rebro, sink := sink } :=
  ⟨fun c' hc' p hp => by rw [List.mem_singleton.mp hc', List.mem_singleton.mp hp]; exact hw, List.cons_ne_nil _ _,
    (nomatch ·), fun c' hc' => List.mem_singleton.mp hc' ▸ hc⟩

theorem compileServer_nodeGood (K : Nat) (t : Tree) :
    ∀ nd ∈ (compileServer K t).nodes, NodeGood (compileServer K t) nd := by
  have hs := seg_of_eq (compileServer_ws K t)
  have hC : (compileServer K t).caps.length = (chsOf K t).length := by rw [compileServer_caps, List.length_map]
  rw [compileServer_nodes]
  generalize compileServer K t = net at hs hC ⊢
  simp only [chsOf, List.map_cons, List.map_append, seg_cons, seg_append, List.length_cons, List.length_append,
    List.length_map, chansT_length] at hs hC
  obtain ⟨⟨h0, h1, hch⟩, hbuf⟩ := hs
  have h0' := wOf_of_getElem? h0
  have h1' := wOf_of_getElem? h1
  refine List.forall_mem_append.mpr ⟨fun nd hnd => ?_, List.forall_mem_cons.mpr
    ⟨nodeGood_single (by rw [h1', planCost_nil]; omega) (by omega), ?_⟩⟩
  · have hl := nodesT_loc nd hnd
    exact ⟨nodesT_weight h0' h1' hch nd hnd, hl.plansNe, hl.allOk,
      fun c hc => by have := hl.ins c hc; omega⟩
  cases hin : t.inThread with
  | true => exact fun nd h => nomatch h
  | false =>
    simp only [hin, Bool.false_eq_true, if_false, List.map_cons, List.map_nil, seg_cons, List.length_singleton]
      at hbuf hC ⊢
    have hb : net.ws[2 + t.nchan]? = some (2 + win t 1) := by
      rw [← hbuf.1]
      congr 1
      omega
    exact List.forall_mem_singleton.mpr
      (nodeGood_single (by rw [planCost_cons, planCost_nil, h0', wOf_of_getElem? hb]; omega) (by omega))

theorem compileServer_apart (K : Nat) (t : Tree) : (compileServer K t).nodes.Pairwise Apart := by
  rw [compileServer_nodes]
  refine List.pairwise_append.mpr ⟨nodesT_apart t 0 1 2 (by omega), ?_, fun x hx y hy c hcx hcy => ?_⟩
  · split
    · exact List.pairwise_singleton _ _
    · refine List.pairwise_pair.mpr fun c hc hc' => ?_
      obtain rfl := List.mem_singleton.mp hc
      have := List.mem_singleton.mp hc'
      omega
  · have := (nodesT_loc x hx).ins c hcx
    have : c = 1 ∨ c = 2 + t.nchan := by
      rcases List.mem_cons.mp hy with rfl | hy
      · exact Or.inl (List.mem_singleton.mp hcy)
      · split at hy
        · cases hy
        · obtain rfl := List.mem_singleton.mp hy
          exact Or.inr (List.mem_singleton.mp hcy)
    omega

theorem compileServer_joins (K : Nat) (t : Tree) (n : Nat) :
    Instr.join n ∈ (compileServer K t).script ↔ n < (compileServer K t).nodes.length := by
  rw [compileServer_script, compileServer_nodes]
  cases t.inThread
  all_goals
    simp only [Bool.false_eq_true, if_false, if_true, List.mem_append, List.mem_cons, List.not_mem_nil, or_false,
      false_or, reduceCtorEq, Instr.join.injEq, join_mem_scriptT, List.length_append, List.length_cons,
      List.length_nil, nodesT_length]
    omega

theorem compileServer_fed (K : Nat) (t : Tree) (hpos : t.pos) :
    JoinsOk (compileServer K t).nodes [] (compileServer K t).script := by
  have hpl := seg_of_eq (compileServer_nodes K t)
  generalize (compileServer K t).nodes = NS at hpl ⊢
  rw [compileServer_script]
  simp only [seg_append, seg_cons, nodesT_length, Nat.zero_add] at hpl
  obtain ⟨hT, hg, hob⟩ := hpl
  have ht := scriptT_fed hpos hT
  -- the gather thread is joined after `stop()` of the tree, which feeds `_q_out`
  have hgather : ∀ done, FedNode NS gatherDesc (done ++ scriptT t 0 2 0) := fun done =>
    ⟨fun _ => ⟨1, List.mem_singleton_self _, (ht []).2.mono fun i hi => List.mem_append_right _ hi⟩, (nomatch ·)⟩
  cases hin : t.inThread with
  | true =>
    simp only [if_true, List.nil_append, joinsOk_append, joinsOk_join hg, joinsOk_clear]
    exact ⟨(ht _).1, hgather [], trivial⟩
  | false =>
    simp only [hin, Bool.false_eq_true, if_false, seg_cons] at hob
    simp only [Bool.false_eq_true, if_false, List.cons_append, List.nil_append, joinsOk_put, joinsOk_join hob.1,
      joinsOk_append, joinsOk_join hg, joinsOk_clear]
    exact ⟨.of_put rfl (List.mem_singleton_self _) (List.mem_singleton_self _), (ht _).1,
      hgather [.put (2 + t.nchan), .join (t.nnode + 1)], trivial⟩

theorem compile_WF (K : Nat) (t : Tree) (hpos : t.pos) : WF (compileServer K t) :=
  .of_parts (compileServer_nodeGood K t) (compileServer_apart K t) (compileServer_joins K t)
    (compileServer_fed K t hpos) (by rw [compileServer_script]; simp)

def Tree.threadOnly : Tree → Prop
  | .simple _ p => p = false
  | .seq a b => a.threadOnly ∧ b.threadOnly
  | .ens a b => a.threadOnly ∧ b.threadOnly
  | .sw a b => a.threadOnly ∧ b.threadOnly

theorem threadOnly_io {t : Tree} (h : t.threadOnly) : t.inThread = true ∧ t.outThread = true := by
  induction t with
  | simple k p => simp only [Tree.threadOnly] at h; simp [Tree.inThread, Tree.outThread, h]
  | seq a b iha ihb => exact ⟨(iha h.1).1, (ihb h.2).2⟩
  | ens a b _ _ => exact ⟨rfl, rfl⟩
  | sw a b iha ihb => exact ⟨rfl, by simp [Tree.outThread, (iha h.1).2, (ihb h.2).2]⟩

theorem chansT_unbounded {K : Nat} {t : Tree} {w : Nat} (h : t.threadOnly) :
    ∀ x ∈ chansT K t w, x.1 = none := by
  induction t generalizing w with
  | simple k p => exact fun x hx => nomatch hx
  | seq a b iha ihb =>
    simp only [chansT, List.forall_mem_cons, List.forall_mem_append, (threadOnly_io h.1).2, (threadOnly_io h.2).1]
    exact ⟨rfl, iha h.1, ihb h.2⟩
  | ens a b iha ihb =>
    simp only [chansT, List.forall_mem_cons, List.forall_mem_append, threadOnly_io h.1, threadOnly_io h.2]
    exact ⟨⟨rfl, rfl, rfl, rfl, fun x hx => nomatch hx⟩, iha h.1, ihb h.2⟩
  | sw a b iha ihb =>
    simp only [chansT, List.forall_mem_cons, List.forall_mem_append, threadOnly_io h.1, threadOnly_io h.2]
    exact ⟨⟨rfl, rfl, fun x hx => nomatch hx⟩, iha h.1, ihb h.2⟩

theorem compile_unbounded (K : Nat) (t : Tree) (h : t.threadOnly) : Unbounded (compileServer K t) := by
  apply unbounded_of_all
  rw [compileServer_caps, List.all_map, List.all_eq_true]
  simp only [chsOf, threadOnly_io h, if_true, List.append_nil, List.forall_mem_cons]
  exact ⟨rfl, rfl, fun x hx => by simp [chansT_unbounded h x hx]⟩

end Lifecycle
