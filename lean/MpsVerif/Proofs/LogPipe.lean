import MpsVerif.Model.LogPipe
/-! `Step` is `LogPipe.step` as a relation.  In the invariant, how far a thread has got is a function
    of its `pc` (`sentAt`, `closedAt`, `recvdAt`, `putAt`), and clauses about another thread speak of
    `fdone`, not of `cpc`, so that the child's main thread leaves them alone. -/
namespace LogPipe

theorem recsOf_append (p : List Item) (x : Item) :
    recsOf (p ++ [x]) = recsOf p ++ recsOf [x] := by
  induction p with
  | nil => exact (List.nil_append _).symm
  | cons y r ih => cases y <;> simp only [List.cons_append, recsOf, ih]

theorem marksOf_append (p : List Item) (x : Item) :
    marksOf (p ++ [x]) = marksOf p + marksOf [x] := by
  induction p with
  | nil => exact (Nat.zero_add _).symm
  | cons y r ih =>
    cases y <;> simp only [List.cons_append, marksOf, ih]
    exact Nat.add_right_comm _ _ _

theorem wf_append_mark (p : List Item) : wf (p ++ [.mark]) = wf p := by
  induction p with
  | nil => rfl
  | cons y r ih =>
    cases y <;> simp only [List.cons_append, wf, ih, recsOf_append, recsOf, List.append_nil]

theorem wf_append_record (p : List Item) (i : Nat) (h : marksOf p = 0) :
    wf (p ++ [.record i]) = wf p := by
  induction p with
  | nil => rfl
  | cons y r ih =>
    cases y with
    | record j => exact ih h
    | mark => cases h

inductive Step (c : Cfg) : State → Act → State → Prop where
  | emit {s} : s.cpc = .emit → s.emitted < c.n →
      Step c s .emit { s with cbuf := s.cbuf ++ [s.emitted], emitted := s.emitted + 1 }
  | targetEnd {s} : s.cpc = .emit → s.emitted = c.n → Step c s .targetEnd { s with cpc := .send1 }
  | send1 {s} : s.cpc = .send1 → Step c s .send1 { s with cpc := .send2, sent := s.sent + 1 }
  | send2 {s} : s.cpc = .send2 → Step c s .send2 { s with cpc := .closeQ, sent := s.sent + 1 }
  | closeQ {s} : s.cpc = .closeQ → Step c s .closeQ { s with cpc := .joinF, qclosed := true }
  | feed {s i rest} : s.cbuf = i :: rest → s.fdone = false → s.pipe.length < c.K →
      Step c s .feed { s with cbuf := rest, pipe := s.pipe ++ [.record i] }
  | feedEnd {s} : s.cbuf = [] → s.qclosed = true → s.fdone = false →
      Step c s .feedEnd { s with fdone := true }
  | exit {s} : s.cpc = .joinF → s.fdone = true → Step c s .exit { s with cpc := .exited }
  | kRecv1 {s} : s.recvd < s.sent → s.kpc = .recv1 →
      Step c s .kRecv { s with kpc := .recv2, recvd := s.recvd + 1 }
  | kRecv2 {s} : s.recvd < s.sent → s.kpc = .recv2 →
      Step c s .kRecv { s with kpc := .waitExit, recvd := s.recvd + 1 }
  | kSentinel {s} : s.kpc = .waitExit → s.cpc = .exited → Step c s .kSentinel { s with kpc := .putEnd }
  | kPutEnd {s} : s.kpc = .putEnd → Step c s .kPutEnd { s with kpc := .joinLog, pbuf := s.pbuf + 1 }
  | pfeed {s} : 0 < s.pbuf → s.pipe.length < c.K →
      Step c s .pfeed { s with pbuf := s.pbuf - 1, pipe := s.pipe ++ [.mark] }
  | lget {s i rest} : s.lstopped = false → s.pipe = .record i :: rest →
      Step c s .lget { s with pipe := rest, consumed := s.consumed ++ [i],
                              handled := if c.pass i then s.handled ++ [i] else s.handled }
  | lend {s rest} : s.lstopped = false → s.pipe = .mark :: rest →
      Step c s .lend { s with pipe := rest, lstopped := true }
  | kJoinLog {s} : s.kpc = .joinLog → s.lstopped = true → Step c s .kJoinLog { s with kpc := .resolve }
  | kResolve {s} : s.kpc = .resolve →
      Step c s .kResolve { s with kpc := .done, fut := true, handledAtResolve := s.handled.length }
  | fin {s} : s.kpc = .done → s.finalized = false →
      Step c s .fin { s with finalized := true, pbuf := s.pbuf + 1 }

theorem step_sound (c : Cfg) (s s' : State) (a : Act) (h : step c s a = some s') : Step c s a s' := by
  cases a with
  | emit => exact Core.of_ite_some h fun hg => .emit hg.1 hg.2
  | targetEnd => exact Core.of_ite_some h fun hg => .targetEnd hg.1 hg.2
  | send1 => exact Core.of_ite_some h .send1
  | send2 => exact Core.of_ite_some h .send2
  | closeQ => exact Core.of_ite_some h .closeQ
  | feed =>
    dsimp only [step] at h
    split at h
    · rename_i i rest hb
      exact Core.of_ite_some h fun hg => .feed hb hg.1 hg.2
    · cases h
  | feedEnd => exact Core.of_ite_some h fun hg => .feedEnd hg.1 hg.2.1 hg.2.2
  | exit => exact Core.of_ite_some h fun hg => .exit hg.1 hg.2
  | kRecv =>
    obtain ⟨hlt, h⟩ := Option.ite_none_right_eq_some.mp h
    split at h
    · rename_i hk
      cases h
      exact .kRecv1 hlt hk
    · rename_i hk
      cases h
      exact .kRecv2 hlt hk
    · cases h
  | kSentinel => exact Core.of_ite_some h fun hg => .kSentinel hg.1 hg.2
  | kPutEnd => exact Core.of_ite_some h .kPutEnd
  | pfeed => exact Core.of_ite_some h fun hg => .pfeed hg.1 hg.2
  | lget =>
    obtain ⟨hl, h⟩ := Option.ite_none_right_eq_some.mp h
    split at h
    · rename_i i rest hp
      cases h
      exact .lget hl hp
    · cases h
  | lend =>
    obtain ⟨hl, h⟩ := Option.ite_none_right_eq_some.mp h
    split at h
    · rename_i rest hp
      cases h
      exact .lend hl hp
    · cases h
  | kJoinLog => exact Core.of_ite_some h fun hg => .kJoinLog hg.1 hg.2
  | kResolve => exact Core.of_ite_some h .kResolve
  | fin => exact Core.of_ite_some h fun hg => .fin hg.1 hg.2

def sentAt : CPc → Nat
  | .emit | .send1 => 0
  | .send2 => 1
  | .closeQ | .joinF | .exited => 2

def closedAt : CPc → Bool
  | .joinF | .exited => true
  | _ => false

def recvdAt : KPc → Nat
  | .recv1 => 0
  | .recv2 => 1
  | _ => 2

def pastExit : KPc → Bool
  | .recv1 | .recv2 | .waitExit => false
  | _ => true

def putAt : KPc → Nat
  | .joinLog | .resolve | .done => 1
  | _ => 0

theorem putAt_eq_zero {p : KPc} (h : pastExit p = false) : putAt p = 0 := by
  cases p <;> first | rfl | cases h

structure Inv (c : Cfg) (s : State) : Prop where
  order : s.consumed ++ recsOf s.pipe ++ s.cbuf = List.range s.emitted
  hand : s.handled = s.consumed.filter c.pass
  le : s.emitted ≤ c.n
  /-- no record behind an end mark -/
  shape : wf s.pipe = true
  full : s.cpc ≠ .emit → s.emitted = c.n
  sent : s.sent = sentAt s.cpc
  closed : s.qclosed = closedAt s.cpc
  fed : s.fdone = true → s.qclosed = true ∧ s.cbuf = []
  exited : s.cpc = .exited → s.fdone = true
  recvd : s.recvd = recvdAt s.kpc
  /-- the collector passes `waitExit` only when the child has exited, so its feeder has ended -/
  gone : pastExit s.kpc = true → s.fdone = true
  /-- every end mark put (one by the collector, one by the finalizer) is in the parent's buffer, in
      the pipe, or has stopped the logger thread -/
  marks : s.pbuf + marksOf s.pipe + s.lstopped.toNat = putAt s.kpc + s.finalized.toNat
  joined : s.kpc = .resolve → s.lstopped = true
  fut : s.fut = decide (s.kpc = .done)
  resolved : s.fut = true → s.lstopped = true ∧ s.handledAtResolve = s.handled.length
  finl : s.finalized = true → s.fut = true
  stopped : s.lstopped = true → recsOf s.pipe = [] ∧ s.fdone = true

theorem inv_init (c : Cfg) : Inv c init :=
  ⟨rfl, rfl, Nat.zero_le _, rfl, fun h => absurd rfl h, rfl, rfl, nofun, nofun, rfl, nofun, rfl, nofun,
    rfl, nofun, nofun, nofun⟩

/-- while the child's feeder runs there is no end mark anywhere: the collector puts its mark only
    after the child has exited, the finalizer after the collector -/
theorem no_marks {c : Cfg} {s : State} (hi : Inv c s) (hf : s.fdone = false) :
    s.pbuf = 0 ∧ marksOf s.pipe = 0 ∧ s.lstopped = false := by
  have hnf : s.fdone ≠ true := Bool.eq_false_iff.mp hf
  have hl : s.lstopped = false := Bool.eq_false_iff.mpr fun h => hnf (hi.stopped h).2
  have hfin : s.finalized = false := Bool.eq_false_iff.mpr fun h =>
    Bool.eq_false_iff.mp hl (hi.resolved (hi.finl h)).1
  have hm := hi.marks
  rw [hl, hfin, putAt_eq_zero (Bool.eq_false_iff.mpr fun h => hnf (hi.gone h))] at hm
  replace hm : s.pbuf + marksOf s.pipe = 0 := hm
  exact ⟨(Nat.add_eq_zero_iff.mp hm).1, (Nat.add_eq_zero_iff.mp hm).2, hl⟩

theorem inv_step (c : Cfg) (s s' : State) (a : Act) (hi : Inv c s) (h : step c s a = some s') :
    Inv c s' := by
  cases step_sound c s s' a h with
  | emit hc hlt =>
    exact { hi with
      order := by
        dsimp only
        rw [List.range_succ, ← hi.order]
        exact (List.append_assoc _ _ _).symm
      le := hlt
      full := fun h => absurd hc h
      fed := fun h => by
        have := (hi.fed h).1
        rw [hi.closed, hc] at this
        cases this }
  | targetEnd hc he =>
    exact { hi with
      full := fun _ => he
      sent := show s.sent = sentAt .emit from hc ▸ hi.sent
      closed := show s.qclosed = closedAt .emit from hc ▸ hi.closed
      exited := nofun }
  | send1 hc =>
    exact { hi with
      full := fun _ => hi.full (by rw [hc]; nofun)
      sent := show s.sent + 1 = sentAt .send1 + 1 from congrArg (· + 1) (hc ▸ hi.sent)
      closed := show s.qclosed = closedAt .send1 from hc ▸ hi.closed
      exited := nofun }
  | send2 hc =>
    exact { hi with
      full := fun _ => hi.full (by rw [hc]; nofun)
      sent := show s.sent + 1 = sentAt .send2 + 1 from congrArg (· + 1) (hc ▸ hi.sent)
      closed := show s.qclosed = closedAt .send2 from hc ▸ hi.closed
      exited := nofun }
  | closeQ hc =>
    exact { hi with
      full := fun _ => hi.full (by rw [hc]; nofun)
      sent := show s.sent = sentAt .closeQ from hc ▸ hi.sent
      closed := rfl
      fed := fun h => ⟨rfl, (hi.fed h).2⟩
      exited := nofun }
  | feed hb hf hk =>
    rename_i i rest
    -- the feeder still runs: the record goes behind no end mark
    obtain ⟨_, m2, m3⟩ := no_marks hi hf
    exact { hi with
      order := by
        dsimp only
        rw [← hi.order, hb, recsOf_append, List.append_assoc, List.append_assoc, List.append_assoc]
        rfl
      shape := (wf_append_record _ i m2).trans hi.shape
      fed := fun h => absurd h (Bool.eq_false_iff.mp hf)
      marks := by
        dsimp only
        rw [marksOf_append]
        exact hi.marks
      stopped := fun h => absurd h (Bool.eq_false_iff.mp m3) }
  | feedEnd hb hq hf =>
    exact { hi with
      fed := fun _ => ⟨hq, hb⟩
      exited := fun _ => rfl
      gone := fun _ => rfl
      stopped := fun h => ⟨(hi.stopped h).1, rfl⟩ }
  | exit hc hf =>
    exact { hi with
      full := fun _ => hi.full (by rw [hc]; nofun)
      sent := show s.sent = sentAt .joinF from hc ▸ hi.sent
      closed := show s.qclosed = closedAt .joinF from hc ▸ hi.closed
      exited := fun _ => hf }
  | kRecv1 hlt hk =>
    exact { hi with
      recvd := show s.recvd + 1 = recvdAt .recv1 + 1 from congrArg (· + 1) (hk ▸ hi.recvd)
      gone := nofun
      marks := show _ = putAt .recv1 + _ from hk ▸ hi.marks
      joined := nofun
      fut := show s.fut = decide (KPc.recv1 = .done) from hk ▸ hi.fut }
  | kRecv2 hlt hk =>
    exact { hi with
      recvd := show s.recvd + 1 = recvdAt .recv2 + 1 from congrArg (· + 1) (hk ▸ hi.recvd)
      gone := nofun
      marks := show _ = putAt .recv2 + _ from hk ▸ hi.marks
      joined := nofun
      fut := show s.fut = decide (KPc.recv2 = .done) from hk ▸ hi.fut }
  | kSentinel hk hc =>
    exact { hi with
      recvd := show s.recvd = recvdAt .waitExit from hk ▸ hi.recvd
      gone := fun _ => hi.exited hc
      marks := show _ = putAt .waitExit + _ from hk ▸ hi.marks
      joined := nofun
      fut := show s.fut = decide (KPc.waitExit = .done) from hk ▸ hi.fut }
  | kPutEnd hk =>
    exact { hi with
      recvd := show s.recvd = recvdAt .putEnd from hk ▸ hi.recvd
      gone := fun _ => hi.gone (by rw [hk]; rfl)
      marks := by
        have h := hi.marks
        rw [hk] at h
        show s.pbuf + 1 + marksOf s.pipe + s.lstopped.toNat = 1 + s.finalized.toNat
        replace h : s.pbuf + marksOf s.pipe + s.lstopped.toNat = 0 + s.finalized.toNat := h
        omega
      joined := nofun
      fut := show s.fut = decide (KPc.putEnd = .done) from hk ▸ hi.fut }
  | pfeed hp hk =>
    have hrec : recsOf (s.pipe ++ [Item.mark]) = recsOf s.pipe :=
      (recsOf_append _ _).trans (List.append_nil _)
    exact { hi with
      order := by
        dsimp only
        rw [hrec]
        exact hi.order
      shape := (wf_append_mark _).trans hi.shape
      marks := by
        have h := hi.marks
        dsimp only
        rw [marksOf_append]
        show s.pbuf - 1 + (marksOf s.pipe + 1) + _ = _
        omega
      stopped := fun h => by
        dsimp only
        rw [hrec]
        exact hi.stopped h }
  | lget hl hp =>
    rename_i i rest
    have hnl : s.lstopped ≠ true := Bool.eq_false_iff.mp hl
    exact { hi with
      order := by
        dsimp only
        rw [← hi.order, hp, List.append_assoc s.consumed]
        rfl
      hand := by
        dsimp only
        rw [List.filter_append, hi.hand]
        cases hpi : c.pass i <;> simp [hpi]
      shape := show wf (Item.record i :: rest) = true from hp ▸ hi.shape
      marks := show _ + marksOf (Item.record i :: rest) + _ = _ from hp ▸ hi.marks
      resolved := fun h => absurd (hi.resolved h).1 hnl
      stopped := fun h => absurd h hnl }
  | lend hl hp =>
    rename_i rest
    have hsh : recsOf rest = [] ∧ wf rest = true := by
      have := hi.shape
      rw [hp] at this
      simpa only [wf, Bool.and_eq_true, List.isEmpty_iff] using this
    -- an end mark in the pipe: the child's feeder has ended
    have hfd : s.fdone = true := by
      cases hf : s.fdone with
      | true => rfl
      | false =>
        have := (no_marks hi hf).2.1
        rw [hp] at this
        cases this
    exact { hi with
      order := show _ ++ recsOf (Item.mark :: rest) ++ _ = _ from hp ▸ hi.order
      shape := hsh.2
      marks := by
        have h := hi.marks
        rw [hp, hl] at h
        dsimp only
        show _ + 1 = _
        replace h : s.pbuf + (marksOf rest + 1) + 0 = _ := h
        omega
      joined := fun _ => rfl
      resolved := fun h => ⟨rfl, (hi.resolved h).2⟩
      stopped := fun _ => ⟨hsh.1, hfd⟩ }
  | kJoinLog hk hl =>
    exact { hi with
      recvd := show s.recvd = recvdAt .joinLog from hk ▸ hi.recvd
      gone := fun _ => hi.gone (by rw [hk]; rfl)
      marks := show _ = putAt .joinLog + _ from hk ▸ hi.marks
      joined := fun _ => hl
      fut := show s.fut = decide (KPc.joinLog = .done) from hk ▸ hi.fut }
  | kResolve hk =>
    exact { hi with
      recvd := show s.recvd = recvdAt .resolve from hk ▸ hi.recvd
      gone := fun _ => hi.gone (by rw [hk]; rfl)
      marks := show _ = putAt .resolve + _ from hk ▸ hi.marks
      joined := nofun
      fut := rfl
      resolved := fun _ => ⟨hi.joined hk, rfl⟩
      finl := fun _ => rfl }
  | fin hk hf =>
    exact { hi with
      marks := by
        have h := hi.marks
        rw [hf] at h
        dsimp only
        show _ = _ + 1
        replace h : _ = _ + 0 := h
        omega
      finl := fun _ => by
        show s.fut = true
        rw [hi.fut, hk]
        rfl }

theorem inv_reachable (c : Cfg) {s : State} (hr : Reachable c s) : Inv c s :=
  Core.invariant_reach (fun s a s' => inv_step c s s' a) (inv_init c) hr

def crank : CPc → Nat
  | .emit => 5 | .send1 => 4 | .send2 => 3 | .closeQ => 2 | .joinF => 1 | .exited => 0

def krank : KPc → Nat
  | .recv1 => 8 | .recv2 => 7 | .waitExit => 6 | .putEnd => 5 | .joinLog => 2 | .resolve => 1 | .done => 0

/-- every record still has to be emitted (3), fed into the pipe (2) and read (1); every end mark
    fed (2) and possibly read (1).  The summands a step changes come first, so that what it leaves
    alone can be cancelled from the right. -/
def mu (c : Cfg) (s : State) : Nat :=
  3 * (c.n - s.emitted) + 2 * s.cbuf.length + s.pipe.length + 2 * s.pbuf + krank s.kpc +
    (if s.lstopped = true then 0 else 1) + (if s.finalized = true then 0 else 3) +
    (if s.fdone = true then 0 else 1) + crank s.cpc

theorem mu_cpc (c : Cfg) (s : State) {p : CPc} {n : Nat} {q : Bool} (h : crank p < crank s.cpc) :
    mu c { s with cpc := p, sent := n, qclosed := q } < mu c s :=
  Nat.add_lt_add_left h _

theorem mu_kpc (c : Cfg) (s : State) {p : KPc} {n m : Nat} {f : Bool} (h : krank p < krank s.kpc) :
    mu c { s with kpc := p, recvd := n, fut := f, handledAtResolve := m } < mu c s := by
  unfold mu
  dsimp only
  simp only [Nat.add_lt_add_iff_right]
  exact Nat.add_lt_add_left h _

theorem mu_decreases (c : Cfg) (s s' : State) (a : Act) (h : step c s a = some s') : mu c s' < mu c s := by
  cases step_sound c s s' a h with
  | emit hc hlt =>
    have hsub : c.n - s.emitted = (c.n - (s.emitted + 1)) + 1 :=
      (Nat.succ_pred_eq_of_pos (Nat.sub_pos_of_lt hlt)).symm
    unfold mu
    dsimp only
    simp only [Nat.add_lt_add_iff_right]
    rw [List.length_append, List.length_singleton, hsub]
    generalize c.n - (s.emitted + 1) = m
    omega
  | targetEnd hc => exact mu_cpc c s (hc ▸ (by decide : crank .send1 < crank .emit))
  | send1 hc => exact mu_cpc c s (hc ▸ (by decide : crank .send2 < crank .send1))
  | send2 hc => exact mu_cpc c s (hc ▸ (by decide : crank .closeQ < crank .send2))
  | closeQ hc => exact mu_cpc c s (hc ▸ (by decide : crank .joinF < crank .closeQ))
  | feed hb =>
    unfold mu
    dsimp only
    simp only [Nat.add_lt_add_iff_right]
    rw [hb, List.length_append, List.length_singleton, List.length_cons]
    omega
  | feedEnd _ _ hf =>
    unfold mu
    dsimp only
    rw [hf]
    exact Nat.add_lt_add_right (Nat.lt_succ_self _) _
  | exit hc => exact mu_cpc c s (hc ▸ (by decide : crank .exited < crank .joinF))
  | kRecv1 _ hk => exact mu_kpc c s (hk ▸ (by decide : krank .recv2 < krank .recv1))
  | kRecv2 _ hk => exact mu_kpc c s (hk ▸ (by decide : krank .waitExit < krank .recv2))
  | kSentinel hk => exact mu_kpc c s (hk ▸ (by decide : krank .putEnd < krank .waitExit))
  | kPutEnd hk =>
    unfold mu
    dsimp only
    simp only [Nat.add_lt_add_iff_right]
    rw [hk]
    show _ + 2 < _ + 5
    omega
  | pfeed hp =>
    unfold mu
    dsimp only
    simp only [Nat.add_lt_add_iff_right]
    rw [List.length_append, List.length_singleton]
    omega
  | lget _ hp =>
    unfold mu
    dsimp only
    simp only [Nat.add_lt_add_iff_right]
    rw [hp, List.length_cons]
    exact Nat.lt_succ_self _
  | lend hl hp =>
    unfold mu
    dsimp only
    simp only [Nat.add_lt_add_iff_right]
    rw [hp, hl, List.length_cons]
    show _ + 0 < _ + 1
    omega
  | kJoinLog hk => exact mu_kpc c s (hk ▸ (by decide : krank .resolve < krank .joinLog))
  | kResolve hk => exact mu_kpc c s (hk ▸ (by decide : krank .done < krank .resolve))
  | fin _ hf =>
    unfold mu
    dsimp only
    simp only [Nat.add_lt_add_iff_right]
    rw [hf]
    show _ + 0 < _ + 3
    omega

theorem progress_of_inv (c : Cfg) (hK : 1 ≤ c.K) (s : State) (hi : Inv c s) (hnf : ¬ Final s) :
    ∃ a, (step c s a).isSome = true := by
  have logger : s.lstopped = false → s.pipe ≠ [] → ∃ a, (step c s a).isSome = true := by
    intro hl hp
    cases hpp : s.pipe with
    | nil => exact absurd hpp hp
    | cons x rest =>
      cases x with
      | record i => exact ⟨.lget, by simp [step, hl, hpp]⟩
      | mark => exact ⟨.lend, by simp [step, hl, hpp]⟩
  cases hcp : s.cpc with
  | emit =>
    by_cases hlt : s.emitted < c.n
    · exact ⟨.emit, Option.isSome_ite.mpr ⟨hcp, hlt⟩⟩
    · exact ⟨.targetEnd, Option.isSome_ite.mpr ⟨hcp, Nat.le_antisymm hi.le (Nat.le_of_not_lt hlt)⟩⟩
  | send1 => exact ⟨.send1, Option.isSome_ite.mpr hcp⟩
  | send2 => exact ⟨.send2, Option.isSome_ite.mpr hcp⟩
  | closeQ => exact ⟨.closeQ, Option.isSome_ite.mpr hcp⟩
  | joinF =>
    cases hf : s.fdone with
    | true => exact ⟨.exit, Option.isSome_ite.mpr ⟨hcp, hf⟩⟩
    | false =>
      cases hb : s.cbuf with
      | nil =>
        have hq : s.qclosed = true := hi.closed.trans (congrArg closedAt hcp)
        exact ⟨.feedEnd, Option.isSome_ite.mpr ⟨hb, hq, hf⟩⟩
      | cons i rest =>
        by_cases hk : s.pipe.length < c.K
        · exact ⟨.feed, by simp [step, hb, hf, hk]⟩
        · -- the pipe is full: the logger thread, which runs as long as the child, takes from it
          have hl := (no_marks hi hf).2.2
          refine logger hl fun hp => hk ?_
          rw [hp]
          exact hK
  | exited =>
    have hsent : s.sent = 2 := hi.sent.trans (congrArg sentAt hcp)
    cases hkp : s.kpc with
    | recv1 =>
      have : s.recvd = 0 := hi.recvd.trans (congrArg recvdAt hkp)
      exact ⟨.kRecv, by simp [step, hkp, this, hsent]⟩
    | recv2 =>
      have : s.recvd = 1 := hi.recvd.trans (congrArg recvdAt hkp)
      exact ⟨.kRecv, by simp [step, hkp, this, hsent]⟩
    | waitExit => exact ⟨.kSentinel, Option.isSome_ite.mpr ⟨hkp, hcp⟩⟩
    | putEnd => exact ⟨.kPutEnd, Option.isSome_ite.mpr hkp⟩
    | joinLog =>
      cases hl : s.lstopped with
      | true => exact ⟨.kJoinLog, Option.isSome_ite.mpr ⟨hkp, hl⟩⟩
      | false =>
        cases hpp : s.pipe with
        | cons x rest => exact logger hl (by rw [hpp]; nofun)
        | nil =>
          -- the collector's end mark is not in the pipe and has not been read: it is in the buffer
          have h7 := hi.marks
          rw [hpp, hl, hkp] at h7
          have hp : 0 < s.pbuf := by
            replace h7 : s.pbuf + 0 + 0 = 1 + _ := h7
            omega
          refine ⟨.pfeed, Option.isSome_ite.mpr ⟨hp, ?_⟩⟩
          rw [hpp]
          exact hK
    | resolve => exact ⟨.kResolve, Option.isSome_ite.mpr hkp⟩
    | done =>
      have hfut : s.fut = true := by
        rw [hi.fut, hkp]
        rfl
      exact absurd ⟨hcp, hkp, (hi.resolved hfut).1⟩ hnf

theorem handled_of_stopped {c : Cfg} {s : State} (hi : Inv c s) (hl : s.lstopped = true) :
    s.handled = expected c := by
  obtain ⟨hp, hfd⟩ := hi.stopped hl
  obtain ⟨hq, hb⟩ := hi.fed hfd
  -- the queue is closed, so the target has ended: everything has been emitted
  have hn : s.emitted = c.n := hi.full fun hc => by
    rw [hi.closed, hc] at hq
    cases hq
  have ho := hi.order
  rw [hp, hb, hn, List.append_nil, List.append_nil] at ho
  rw [hi.hand, ho]
  rfl

theorem run_emits (c : Cfg) (k : Nat) (s : State) (hc : s.cpc = .emit) (hk : s.emitted + k ≤ c.n) :
    Core.run (step c) s (List.replicate k .emit)
      = some { s with cbuf := s.cbuf ++ List.range' s.emitted k, emitted := s.emitted + k } := by
  induction k generalizing s with
  | zero =>
    show some s = some { s with cbuf := s.cbuf ++ [], emitted := s.emitted }
    rw [List.append_nil]
  | succ k ih =>
    have hst : step c s .emit = some { s with cbuf := s.cbuf ++ [s.emitted], emitted := s.emitted + 1 } :=
      if_pos ⟨hc, Nat.lt_of_lt_of_le (Nat.lt_add_of_pos_right (Nat.succ_pos k)) hk⟩
    have hrest := ih { s with cbuf := s.cbuf ++ [s.emitted], emitted := s.emitted + 1 } hc
      (Nat.le_trans (Nat.le_of_eq (Nat.add_right_comm s.emitted 1 k)) hk)
    rw [List.replicate_succ, Core.run_cons, hst, Option.bind_some, hrest]
    show some { s with cbuf := s.cbuf ++ [s.emitted] ++ List.range' (s.emitted + 1) k,
                       emitted := s.emitted + 1 + k } = _
    rw [List.append_assoc, Nat.add_right_comm]
    rfl

end LogPipe
