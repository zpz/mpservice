import MpsVerif.Proofs.LifecycleWf
/-! The invariant of the stop protocol.  One clause per group of state components, each with the lemmas that say how
it reacts when one component is updated; `inv_step` then names, per step, one such lemma for each component that
changes. -/
namespace Lifecycle

/-- the effect of an instruction of `__exit__` that has been executed -/
def Done (ns : Nat → NSt) (sput : Nat → Bool) (ledger : Nat) : Instr → Prop
  | .join n => ns n = .s []
  | .put c => sput c = true
  | .clear => ledger = 0

def PreOk (net : Net) (pc : List Instr) (ns : Nat → NSt) (sput : Nat → Bool) (ledger : Nat) (stopping : Bool) : Prop :=
  ∃ pre, net.script = pre ++ pc ∧ (∀ i ∈ pre, Done ns sput ledger i) ∧ (stopping = false → pre = [])

/-- `sput` = the queues a sentinel has been put on, `w` = the input queues an `all` thread still waits for.  The last
    two clauses of `.s` (a thread that has left did take the sentinel from its input queues) serve `holder_progress`:
    the reader of a full pipe on which no sentinel has been put has not left. -/
def NodeInv (nd : NodeDesc) (sput : Nat → Bool) (w : List Nat) : NSt → Prop
  | .d pend => (∀ c ∈ pend, ∃ plan ∈ nd.plans, c ∈ plan) ∧ (nd.all = true → w ≠ [])
  | .s pend => (∀ c ∈ nd.souts, c ∈ pend ∨ sput c = true) ∧
      (∀ c ∈ pend, c ∈ nd.souts ∨ (c ∈ nd.ins ∧ sput c = true)) ∧
      (∀ c, nd.ins = [c] → sput c = true) ∧ (nd.all = true → ∀ c ∈ nd.ins, sput c = true)

def NodesOk (net : Net) (ns : Nat → NSt) (sput : Nat → Bool) (wait : Nat → List Nat) : Prop :=
  ∀ (n : Nat) (nd : NodeDesc), net.nodes[n]? = some nd → NodeInv nd sput (wait n) (ns n)

def WaitOk (net : Net) (sput : Nat → Bool) (wait : Nat → List Nat) : Prop :=
  ∀ (n : Nat) (nd : NodeDesc), net.nodes[n]? = some nd → nd.all = true →
    (∀ c ∈ wait n, c ∈ nd.ins) ∧ ∀ c ∈ nd.ins, c ∉ wait n → sput c = true

/-- the sentinel put on `c` has been taken for good; a worker puts it back first, so until then `c` is pending -/
def Taken (net : Net) (ns : Nat → NSt) (wait : Nat → List Nat) (c : Nat) : Prop :=
  (∃ (n : Nat) (nd : NodeDesc) (pend : List Nat), net.nodes[n]? = some nd ∧ c ∈ nd.ins ∧ ns n = .s pend ∧
    (nd.rebro = true → c ∈ pend)) ∨
  (∃ (n : Nat) (nd : NodeDesc), net.nodes[n]? = some nd ∧ c ∈ nd.ins ∧ nd.all = true ∧ c ∉ wait n)

def KeepOk (net : Net) (chans : Nat → List Msg) (ns : Nat → NSt) (sput : Nat → Bool) (wait : Nat → List Nat) :
    Prop :=
  ∀ c, sput c = true → Msg.stop ∈ chans c ∨ Taken net ns wait c

def SentOk (chans : Nat → List Msg) (sput : Nat → Bool) : Prop := ∀ c, Msg.stop ∈ chans c → sput c = true

structure Inv (net : Net) (s : State) : Prop where
  pre : PreOk net s.pc s.nodes s.sput s.ledger s.stopping
  node : NodesOk net s.nodes s.sput s.wait
  wait : WaitOk net s.sput s.wait
  keep : KeepOk net s.chans s.nodes s.sput s.wait
  sent : SentOk s.chans s.sput

theorem inv_init (net : Net) (wf : WF net) : Inv net (init net) := by
  refine ⟨⟨[], rfl, nofun, fun _ => rfl⟩, fun n nd hnd => ⟨nofun, fun ha => ?_⟩,
    fun n nd hnd ha => ?_, nofun, nofun⟩
  · simp only [init, hnd, ha, if_true]
    exact (wf.allOk n nd hnd ha).2
  · simp only [init, hnd, ha, if_true]
    exact ⟨fun c hc => hc, fun c hc hn => absurd hc hn⟩

variable {net : Net} {chans : Nat → List Msg} {ns ns' : Nat → NSt} {sput : Nat → Bool} {wait wait' : Nat → List Nat}
  {pc : List Instr} {l : Nat} {st : Bool} {nd : NodeDesc} {w : List Nat} {n c : Nat} {rest : List Nat}

theorem upd_s_of_d {p : List Nat} {v : NSt} (hn : ns n = .d p) :
    ∀ m pend, ns m = .s pend → upd ns n v m = .s pend := by
  intro m pend hm
  rw [upd_ne fun e => by rw [e, hn] at hm; cases hm]
  exact hm

theorem mem_upd_of_mem (hw : ∀ x ∈ w, x ∈ wait n) : ∀ m x, x ∈ upd wait n w m → x ∈ wait m := by
  intro m x hx
  unfold upd at hx
  split at hx
  · rename_i e
    exact e ▸ hw x hx
  · exact hx

theorem mem_upd_self_append {m : Msg} : m ∈ upd chans c (chans c ++ [m]) c := by
  rw [upd_same]
  exact List.mem_append_right _ List.mem_cons_self

namespace PreOk

theorem mono {l' : Nat} {sput' : Nat → Bool} (h : PreOk net pc ns sput l st)
    (hd : ∀ i, Done ns sput l i → Done ns' sput' l' i) : PreOk net pc ns' sput' l' st := by
  obtain ⟨pre, hpre, hdone, hst⟩ := h
  exact ⟨pre, hpre, fun i hi => hd i (hdone i hi), hst⟩

theorem upd_node (h : PreOk net pc ns sput l st) (hn : ns n ≠ .s []) (v : NSt) :
    PreOk net pc (upd ns n v) sput l st :=
  h.mono fun i hi => match i, hi with
    | .join m, hi => (upd_ne fun e : m = n => hn (e ▸ hi)).trans hi
    | .put _, hi | .clear, hi => hi

theorem mark (h : PreOk net pc ns sput l st) (c : Nat) : PreOk net pc ns (upd sput c true) l st :=
  h.mono fun i hi => match i, hi with
    | .put _, hi => upd_true_mono hi
    | .join _, hi | .clear, hi => hi

theorem ledger {l' : Nat} (h : PreOk net pc ns sput l st) (hl : l = 0 → l' = 0) : PreOk net pc ns sput l' st :=
  h.mono fun i hi => match i, hi with
    | .clear, hi => hl hi
    | .join _, hi | .put _, hi => hi

/-- before `__exit__` begins nothing has been executed -/
theorem idle {l' : Nat} (h : PreOk net pc ns sput l st) (hs : st = false) : PreOk net pc ns sput l' st := by
  obtain ⟨pre, hpre, _, hst⟩ := h
  cases hst hs
  exact ⟨[], hpre, nofun, hst⟩

theorem advance {i : Instr} (h : PreOk net (i :: pc) ns sput l st) (hi : Done ns sput l i) :
    PreOk net pc ns sput l true := by
  obtain ⟨pre, hpre, hdone, _⟩ := h
  refine ⟨pre ++ [i], by rw [hpre, List.append_assoc]; rfl, fun j hj => ?_, nofun⟩
  rcases List.mem_append.mp hj with hj | hj
  · exact hdone j hj
  · exact List.mem_singleton.mp hj ▸ hi

end PreOk

namespace NodeInv

theorem put_data (h : NodeInv nd sput w (.d (c :: rest))) : NodeInv nd sput w (.d rest) :=
  ⟨fun c' hc' => h.1 c' (List.mem_cons_of_mem _ hc'), h.2⟩

theorem mark {v : NSt} (h : NodeInv nd sput w v) (c : Nat) : NodeInv nd (upd sput c true) w v :=
  match v, h with
  | .d _, h => h
  | .s _, h => ⟨fun c' hc' => (h.1 c' hc').imp_right upd_true_mono,
      fun c' hc' => (h.2.1 c' hc').imp_right (And.imp_right upd_true_mono),
      fun c' hc' => upd_true_mono (h.2.2.1 c' hc'), fun ha c' hc' => upd_true_mono (h.2.2.2 ha c' hc')⟩

theorem put_stop (h : NodeInv nd sput w (.s (c :: rest))) : NodeInv nd (upd sput c true) w (.s rest) := by
  obtain ⟨h1, h2, h3⟩ := h.mark c
  refine ⟨fun c' hc' => ?_, fun c' hc' => h2 c' (List.mem_cons_of_mem _ hc'), h3⟩
  rcases h1 c' hc' with hp | hp
  · rcases List.mem_cons.mp hp with rfl | hp
    · exact .inr upd_same
    · exact .inl hp
  · exact .inr hp

end NodeInv

namespace NodesOk

theorem of_state {v : NSt} (h : NodesOk net ns sput wait) (hnd : net.nodes[n]? = some nd) (hn : ns n = v) :
    NodeInv nd sput (wait n) v :=
  hn ▸ h n nd hnd

theorem mark (h : NodesOk net ns sput wait) (c : Nat) : NodesOk net ns (upd sput c true) wait :=
  fun m md hmd => (h m md hmd).mark c

theorem update {v : NSt} (h : NodesOk net ns sput wait) (hnd : net.nodes[n]? = some nd)
    (hn : NodeInv nd sput w v) : NodesOk net (upd ns n v) sput (upd wait n w) := by
  intro m md hmd
  by_cases e : m = n
  · subst e
    rw [hnd] at hmd
    cases hmd
    rw [upd_same, upd_same]
    exact hn
  · rw [upd_ne e, upd_ne e]
    exact h m md hmd

theorem upd_node {v : NSt} (h : NodesOk net ns sput wait) (hnd : net.nodes[n]? = some nd)
    (hn : NodeInv nd sput (wait n) v) : NodesOk net (upd ns n v) sput wait := by
  have := h.update hnd hn
  rwa [upd_self] at this

theorem upd_wait (h : NodesOk net ns sput wait) (hnd : net.nodes[n]? = some nd)
    (hn : NodeInv nd sput w (ns n)) : NodesOk net ns sput (upd wait n w) := by
  have := h.update hnd hn
  rwa [upd_self] at this

end NodesOk

theorem mem_waitAfter {x : Nat} : x ∈ waitAfter nd w c ↔ nd.all = true ∧ x ∈ w ∧ x ≠ c := by
  unfold waitAfter
  split <;> simp [*]

namespace WaitOk

theorem mark (h : WaitOk net sput wait) (c : Nat) : WaitOk net (upd sput c true) wait :=
  fun m md hmd ha => (h m md hmd ha).imp_right fun h c' hc' hnw => upd_true_mono (h c' hc' hnw)

theorem update (h : WaitOk net sput wait) (hnd : net.nodes[n]? = some nd)
    (hw : nd.all = true → (∀ c ∈ w, c ∈ nd.ins) ∧ ∀ c ∈ nd.ins, c ∉ w → sput c = true) :
    WaitOk net sput (upd wait n w) := by
  intro m md hmd ha
  by_cases e : m = n
  · subst e
    rw [hnd] at hmd
    cases hmd
    rw [upd_same]
    exact hw ha
  · rw [upd_ne e]
    exact h m md hmd ha

theorem after (h : WaitOk net sput wait) (hnd : net.nodes[n]? = some nd) (ha : nd.all = true) (hc : sput c = true) :
    ∀ c' ∈ nd.ins, c' ∉ waitAfter nd (wait n) c → sput c' = true := by
  intro c' hc' hnw
  by_cases hin : c' ∈ wait n
  · by_cases e : c' = c
    · exact e ▸ hc
    · exact absurd (mem_waitAfter.mpr ⟨ha, hin, e⟩) hnw
  · exact (h n nd hnd ha).2 c' hc' hin

end WaitOk

namespace KeepOk

theorem frame (h : KeepOk net chans ns sput wait) (hns : ∀ m pend, ns m = .s pend → ns' m = .s pend)
    (hw : ∀ m x, x ∈ wait' m → x ∈ wait m) : KeepOk net chans ns' sput wait' := by
  refine fun c hc => (h c hc).imp_right fun ht => ?_
  rcases ht with ⟨m, md, pend, hmd, hcm, hm, hr⟩ | ⟨m, md, hmd, hcm, ha, hnw⟩
  · exact .inl ⟨m, md, pend, hmd, hcm, hns m pend hm, hr⟩
  · exact .inr ⟨m, md, hmd, hcm, ha, fun hx => hnw (hw m c hx)⟩

theorem put (h : KeepOk net chans ns sput wait) (c : Nat) (m : Msg) :
    KeepOk net (upd chans c (chans c ++ [m])) ns sput wait := by
  refine fun c' hc' => (h c' hc').imp_left fun hm => ?_
  unfold upd
  split
  · rename_i e
    exact List.mem_append_left _ (e ▸ hm)
  · exact hm

theorem take {m : Msg} {rest : List Msg} (h : KeepOk net chans ns sput wait) (hq : chans c = m :: rest)
    (hm : m = .stop → Taken net ns wait c) : KeepOk net (upd chans c rest) ns sput wait := by
  intro c' hc'
  by_cases e : c' = c
  · subst e
    rw [upd_same]
    rcases h c' hc' with h1 | h1
    · rw [hq] at h1
      rcases List.mem_cons.mp h1 with h1 | h1
      · exact .inr (hm h1.symm)
      · exact .inl h1
    · exact .inr h1
  · rw [upd_ne e]
    exact h c' hc'

theorem mark (h : KeepOk net chans ns sput wait) (hc : Msg.stop ∈ chans c) :
    KeepOk net chans ns (upd sput c true) wait := by
  intro c' hc'
  by_cases e : c' = c
  · exact .inl (e ▸ hc)
  · rw [upd_ne e] at hc'
    exact h c' hc'

theorem forwarded (h : KeepOk net chans ns sput wait) (hn : ns n = .s (c :: rest))
    (hc : Msg.stop ∈ chans c) : KeepOk net chans (upd ns n (.s rest)) sput wait := by
  intro c' hc'
  by_cases ec : c' = c
  · exact .inl (ec ▸ hc)
  · refine (h c' hc').imp_right fun ht => ?_
    rcases ht with ⟨m, md, pend, hmd, hcm, hm, hr⟩ | ht
    · by_cases e : m = n
      · subst e
        rw [hn] at hm
        cases hm
        exact .inl ⟨m, md, rest, hmd, hcm, upd_same, fun hr' => (List.mem_cons.mp (hr hr')).resolve_left ec⟩
      · exact .inl ⟨m, md, pend, hmd, hcm, by rw [upd_ne e]; exact hm, hr⟩
    · exact .inr ht

end KeepOk

namespace SentOk

theorem put_data (h : SentOk chans sput) (c : Nat) : SentOk (upd chans c (chans c ++ [.data])) sput := by
  intro c' hc'
  refine h c' ?_
  unfold upd at hc'
  split at hc'
  · rename_i e
    rcases List.mem_append.mp hc' with h1 | h1
    · exact e ▸ h1
    · cases List.mem_singleton.mp h1
  · exact hc'

theorem put_stop (h : SentOk chans sput) (c : Nat) :
    SentOk (upd chans c (chans c ++ [.stop])) (upd sput c true) := by
  intro c' hc'
  by_cases e : c' = c
  · rw [e, upd_same]
  · rw [upd_ne e] at hc' ⊢
    exact h c' hc'

theorem take {m : Msg} {rest : List Msg} (h : SentOk chans sput) (hq : chans c = m :: rest) :
    SentOk (upd chans c rest) sput := by
  intro c' hc'
  refine h c' ?_
  unfold upd at hc'
  split at hc'
  · rename_i e
    rw [e, hq]
    exact List.mem_cons_of_mem _ hc'
  · exact hc'

end SentOk

theorem inv_step (net : Net) (s : State) (a : Act) (s' : State) (hi : Inv net s) (hs : Step net s a s') :
    Inv net s' := by
  obtain ⟨hP, hN, hW, hK, hQ⟩ := hi
  cases hs with
  | inject h0 => exact ⟨hP.idle h0, hN, hW, hK.put _ _, hQ.put_data _⟩
  | @getData n c k nd rest plan hnd hn hc hq hpl =>
    exact ⟨(hP.upd_node (by rw [hn]; nofun) _).ledger fun h => by rw [h]; split <;> rfl,
      hN.upd_node hnd ⟨fun c hc => ⟨plan, List.mem_of_getElem? hpl, hc⟩, (hN.of_state hnd hn).2⟩, hW,
      (hK.frame (upd_s_of_d hn) fun _ _ h => h).take hq nofun, hQ.take hq⟩
  | @getStop n c nd rest hnd hn hc hq hw =>
    have hspc : s.sput c = true := hQ c (by rw [hq]; exact List.mem_cons_self)
    have hall : nd.all = true → ∀ c' ∈ nd.ins, s.sput c' = true := fun ha c' hc' =>
      hW.after hnd ha hspc c' hc' (by rw [hw]; nofun)
    refine ⟨hP.upd_node (by rw [hn]; nofun) _, hN.update hnd ⟨fun c' hc' => .inl (List.mem_append_right _ hc'),
        fun c' hc' => ?_, fun c0 h0 => ?_, hall⟩,
      hW.update hnd fun ha => ⟨fun _ h => (nomatch h), fun c' hc' _ => hall ha c' hc'⟩,
      (hK.frame (upd_s_of_d hn) (mem_upd_of_mem (w := []) nofun)).take hq fun _ =>
        .inl ⟨n, nd, _, hnd, hc, upd_same, fun hr => by simp [hr]⟩,
      hQ.take hq⟩
    · rcases List.mem_append.mp hc' with h | h
      · split at h
        · exact .inr ⟨List.mem_singleton.mp h ▸ hc, List.mem_singleton.mp h ▸ hspc⟩
        · cases h
      · exact .inl h
    · rw [h0] at hc
      exact List.mem_singleton.mp hc ▸ hspc
  | @getStopWait n c nd rest hnd hn hc hq hw =>
    have hspc : s.sput c = true := hQ c (by rw [hq]; exact List.mem_cons_self)
    obtain ⟨x, hx⟩ := List.exists_mem_of_ne_nil _ hw
    have hall := (mem_waitAfter.mp hx).1
    exact ⟨hP, hN.upd_wait hnd (by rw [hn]; exact ⟨nofun, fun _ => hw⟩),
      hW.update hnd fun ha => ⟨fun x hx => (hW n nd hnd ha).1 x (mem_waitAfter.mp hx).2.1, hW.after hnd ha hspc⟩,
      (hK.frame (fun _ _ h => h) (mem_upd_of_mem fun x hx => (mem_waitAfter.mp hx).2.1)).take hq fun _ =>
        .inr ⟨n, nd, hnd, hc, hall, by rw [upd_same]; exact fun h => (mem_waitAfter.mp h).2.2 rfl⟩,
      hQ.take hq⟩
  | @putData n c rest hlt hn hroom =>
    have hnd := List.getElem?_eq_getElem hlt
    exact ⟨hP.upd_node (by rw [hn]; nofun) _, hN.upd_node hnd (hN.of_state hnd hn).put_data, hW,
      (hK.frame (upd_s_of_d hn) fun _ _ h => h).put _ _, hQ.put_data _⟩
  | @putStop n c rest hlt hn =>
    have hnd := List.getElem?_eq_getElem hlt
    exact ⟨(hP.upd_node (by rw [hn]; nofun) _).mark c,
      (hN.mark c).upd_node hnd (hN.of_state hnd hn).put_stop, hW.mark c,
      ((hK.put c .stop).forwarded hn mem_upd_self_append).mark mem_upd_self_append, hQ.put_stop c⟩
  | @mainPut c rest hpc =>
    rw [hpc] at hP
    exact ⟨(hP.mark c).advance upd_same,
      hN.mark c, hW.mark c,
      (hK.put c .stop).mark mem_upd_self_append, hQ.put_stop c⟩
  | @mainJoin n rest hpc hn =>
    rw [hpc] at hP
    exact ⟨hP.advance hn, hN, hW, hK, hQ⟩
  | @mainClear rest hpc =>
    rw [hpc] at hP
    exact ⟨(hP.ledger fun _ => rfl).advance rfl, hN, hW, hK, hQ⟩

theorem inv_reachable (net : Net) (wf : WF net) {s : State} (hr : Reachable net s) : Inv net s :=
  reachable_inv net (inv_init net wf) (inv_step net) hr

end Lifecycle
