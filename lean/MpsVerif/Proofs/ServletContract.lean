import MpsVerif.Proofs.ServletEns
import MpsVerif.Proofs.ServletSwitch
/-!
# The node contract on histories, per node kind, and its composition along a sequence

`Contract o recv sentG`: every message put on `q_out` is `(u, y)` for a received `(u, x)` with
`y ∈ o x` (an allowed outcome of that request's own input), and no received message is answered
more often than it was received.  `Complete`: sent = received as multisets of (uid, input).
-/
namespace Servlet

structure Contract (o : Val → List Val) (recv : List Msg) (sentG : List GMsg) : Prop where
  own  : ∀ t ∈ sentG, gkey t ∈ recv ∧ t.2.2 ∈ o t.2.1
  once : ∀ m, (sentG.map gkey).count m ≤ recv.count m

def Complete (recv : List Msg) (sentG : List GMsg) : Prop := (sentG.map gkey).Perm recv

namespace Contract

/-- the form in which the node invariants deliver the contract: a balance
    "sent + still inside = received" on multisets of keys -/
theorem of_balance {o : Val → List Val} {recv : List Msg} {sentG : List GMsg} {inside : Msg → Nat}
    (hg : ∀ t ∈ sentG, t.2.2 ∈ o t.2.1) (hc : ∀ m, kc m sentG + inside m = recv.count m) :
    Contract o recv sentG ∧ ((∀ m, inside m = 0) → Complete recv sentG) := by
  have hle : ∀ m, (sentG.map gkey).count m ≤ recv.count m := fun m => Nat.le.intro (hc m)
  refine ⟨⟨fun t ht => ⟨?_, hg t ht⟩, hle⟩, fun h0 => List.perm_iff_count.mpr fun m => ?_⟩
  · have : 0 < (sentG.map gkey).count (gkey t) := List.count_pos_iff.mpr (List.mem_map.mpr ⟨t, ht, rfl⟩)
    exact List.count_pos_iff.mp (Nat.lt_of_lt_of_le this (hle _))
  · rw [← hc m, h0 m]
    rfl

theorem sent_nodup {o : Val → List Val} {recv : List Msg} {sentG : List GMsg}
    (h : Contract o recv sentG) (hn : (recv.map (·.1)).Nodup) : (sentG.map (·.1)).Nodup := by
  have := nodup_fst_of_count_le (sentG.map gkey) h.once hn
  rw [List.map_map] at this
  exact this

theorem no_crosstalk {o : Val → List Val} {recv : List Msg} {sentG : List GMsg}
    (h : Contract o recv sentG) (hn : (recv.map (·.1)).Nodup) {u : Nat} {x y : Val}
    (hx : (u, x) ∈ recv) (hy : (u, y) ∈ sentG.map gmsg) : y ∈ o x := by
  obtain ⟨⟨u', x', y'⟩, ht, hty⟩ := List.mem_map.mp hy
  cases hty
  obtain ⟨h1, h2⟩ := h.own _ ht
  exact fst_unique hn h1 hx ▸ h2

end Contract

theorem Complete.answered {recv : List Msg} {sentG : List GMsg} (h : Complete recv sentG) :
    ∀ m ∈ recv, ∃ t ∈ sentG, gkey t = m := by
  intro m hm
  obtain ⟨t, ht, rfl⟩ := List.mem_map.mp (h.mem_iff.mpr hm)
  exact ⟨t, ht, rfl⟩

theorem outs_ens (ts : List Tree) (ff : Bool) : outs (.ens ts ff) = eouts (ts.map outs) ff :=
  funext fun x => by simp [outs, eouts, outsEach_eq]

theorem outs_switch (ts : List Tree) (sel : Val → Nat) : outs (.switch ts sel) = souts (ts.map outs) sel :=
  funext fun x => by simp [outs, souts, outsNth_eq]

theorem Wk.contract (w : WSpec) (hb : Wk.BerrsOk w) (as : List Wk.Act) (s : Wk.State)
    (hr : Core.run (Wk.step w) Wk.init as = some s) :
    Contract (wouts w) s.recv s.sentG ∧ (Wk.Quiescent s → Complete s.recv s.sentG) := by
  have h := Wk.inv_run hb hr
  obtain ⟨hc, hq⟩ := Contract.of_balance (fun t ht => h.good t (List.mem_append_left _ ht)) h.cons
  refine ⟨hc, fun ⟨_, q2, q3, q4⟩ => hq fun m => ?_⟩
  rw [q2, q3, q4]
  rfl

theorem Sw.contract (ms : List (Val → List Val)) (sel : Val → Nat) (as : List Sw.Act) (s : Sw.State)
    (hr : Core.run (Sw.step ms sel) Sw.init as = some s) :
    Contract (souts ms sel) s.recv s.sentG ∧ (Sw.Quiescent s → Complete s.recv s.sentG) := by
  have h := Sw.inv_run hr
  obtain ⟨hc, hq⟩ := Contract.of_balance (fun t ht => h.good t (List.mem_append_left _ ht)) h.cons
  refine ⟨hc, fun ⟨_, q2, q3⟩ => hq fun m => ?_⟩
  rw [q2, q3]
  rfl

namespace Ens

/-- at rest no request is waiting in the catalog: none of its slots could still be filled -/
theorem quiescent_cat {ms : List (Val → List Val)} {ff : Bool} {s : Ens.State}
    (h : Ens.Inv ms ff s) (hq : Ens.Quiescent s) : ∀ u, Ens.lookup u s.cat = none := by
  intro u
  cases hl : Ens.lookup u s.cat with
  | none => rfl
  | some e =>
    exfalso
    have he := h.cat u e hl
    obtain ⟨-, q2, q3, -⟩ := hq
    have := filled_of_no_hole e.ys fun i hi hc => by
      have := (he.hole i (he.slots ▸ hi)).mp hc
      rw [Ens.ik, q2, q3] at this
      cases this
    have := he.count
    have := he.waiting
    have := he.slots
    omega

end Ens

theorem Ens.contract (ms : List (Val → List Val)) (ff : Bool) (hpos : 0 < ms.length)
    (as : List Ens.Act) (s : Ens.State) (hr : Core.run (Ens.step ms ff) Ens.init as = some s)
    (hn : (s.recv.map (·.1)).Nodup) :
    Contract (eouts ms ff) s.recv s.sentG ∧ (Ens.Quiescent s → Complete s.recv s.sentG) := by
  have h := Ens.inv_run hpos hr hn
  have hown : ∀ t ∈ s.sentG, gkey t ∈ s.recv ∧ t.2.2 ∈ eouts ms ff t.2.1 :=
    fun t ht => h.good t (List.mem_append_left _ ht)
  have hsn : (s.sentG.map gkey).Nodup := by
    have := h.once
    rw [Ens.su, List.map_append] at this
    refine nodup_of_nodup_fst ?_
    rw [List.map_map]
    exact (List.nodup_append.mp this).1
  refine ⟨⟨hown, fun m => ?_⟩, fun hq => ?_⟩
  · rw [hsn.count]
    split
    · rename_i hm
      obtain ⟨t, ht, rfl⟩ := List.mem_map.mp hm
      exact List.count_pos_iff.mpr (hown t ht).1
    · exact Nat.zero_le _
  · refine (List.perm_ext_iff_of_nodup hsn (nodup_of_nodup_fst hn)).mpr fun m => ⟨fun hm => ?_, fun hm => ?_⟩
    · obtain ⟨t, ht, rfl⟩ := List.mem_map.mp hm
      exact (hown t ht).1
    · rcases h.compl m hm with h1 | ⟨e, h1, -⟩
      · -- answered, and nothing is waiting to be put on the output queue: it has been sent
        rw [Ens.su, hq.2.2.2, List.append_nil] at h1
        obtain ⟨t, ht, htu⟩ := List.mem_map.mp h1
        obtain ⟨u, x, y⟩ := t
        cases htu
        exact List.mem_map.mpr ⟨_, ht, Prod.ext rfl (fst_unique hn (hown _ ht).1 hm)⟩
      · rw [Ens.quiescent_cat h hq] at h1
        cases h1

/-- Stage `B` reads what stage `A` wrote (`hlink`).  The proviso is passed on: `A` answers every uid
    at most once, so the uids `B` receives are pairwise distinct too. -/
theorem seq_compose {oA oB : Val → List Val} {recvA recvB : List Msg} {sentA sentB : List GMsg}
    (hA : Contract oA recvA sentA) (hB : Contract oB recvB sentB)
    (hlink : ∀ m, recvB.count m ≤ (sentA.map gmsg).count m) (hn : (recvA.map (·.1)).Nodup) :
    (recvB.map (·.1)).Nodup ∧ (sentB.map (·.1)).Nodup ∧
    ∀ tb ∈ sentB, ∃ x, (tb.1, x) ∈ recvA ∧ tb.2.2 ∈ (oA x).flatMap oB := by
  have hsa : ((sentA.map gmsg).map (·.1)).Nodup := by
    rw [List.map_map]
    exact hA.sent_nodup hn
  have hrb := nodup_fst_of_count_le recvB hlink hsa
  refine ⟨hrb, hB.sent_nodup hrb, fun tb htb => ?_⟩
  obtain ⟨h1, h2⟩ := hB.own tb htb
  have : gkey tb ∈ sentA.map gmsg :=
    List.count_pos_iff.mp (Nat.lt_of_lt_of_le (List.count_pos_iff.mpr h1) (hlink _))
  obtain ⟨⟨u, x, y⟩, hta, hk⟩ := List.mem_map.mp this
  obtain ⟨h3, h4⟩ := hA.own _ hta
  obtain ⟨u', y', z⟩ := tb
  cases hk
  exact ⟨x, h3, List.mem_flatMap.mpr ⟨y, h4, h2⟩⟩

theorem seq_complete {recvA recvB : List Msg} {sentA sentB : List GMsg}
    (hA : Complete recvA sentA) (hB : Complete recvB sentB)
    (hlink : recvB.Perm (sentA.map gmsg)) :
    ∀ m ∈ recvA, ∃ tb ∈ sentB, tb.1 = m.1 := by
  intro m hm
  obtain ⟨ta, hta, rfl⟩ := hA.answered m hm
  obtain ⟨tb, htb, hkb⟩ := hB.answered _ (hlink.mem_iff.mpr (List.mem_map.mpr ⟨ta, hta, rfl⟩))
  exact ⟨tb, htb, (Prod.mk.inj hkb).1⟩

end Servlet
