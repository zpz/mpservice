import MpsVerif.Model.ServletTree
import MpsVerif.Proofs.ServletContract
/-!
# Lifting the node contracts to whole servlet trees

`tree_sat`: every boundary trace of a concrete tree whose input uids are pairwise distinct satisfies
the trace contract for the denotation `outs t`.  The step from a node contract to the trace
contract is taken once, for all node kinds (`lift_run`): it sees of a wrapped node only its `View`
— the histories, the input queue, the messages pending at members and the ghost traces — and of a
wrapped step only which of seven `Move`s it makes on the view.
-/
namespace Servlet

@[simp] theorem inpOf_inp (m : Msg) : (Ev.inp m).inpOf = some m := rfl
@[simp] theorem inpOf_out (m : Msg) : (Ev.out m).inpOf = none := rfl
@[simp] theorem outOf_inp (m : Msg) : (Ev.inp m).outOf = none := rfl
@[simp] theorem outOf_out (m : Msg) : (Ev.out m).outOf = some m := rfl

theorem snoc_inj {α : Type} {l l' : List α} {a b : α} (h : l ++ [a] = l' ++ [b]) : l = l' ∧ a = b := by
  have := List.append_inj' h rfl
  exact ⟨this.1, List.singleton_inj.mp this.2⟩

theorem Sat.prefix {o : Val → List Val} {τ : List Ev} (h : Sat o τ) :
    ∀ σ ρ, τ = σ ++ ρ → Sat o σ := by
  induction h with
  | nil =>
    intro σ ρ he
    rw [(List.append_eq_nil_iff.mp he.symm).1]
    exact Sat.nil
  | inp τ' m h' ih =>
    intro σ ρ he
    rcases List.eq_nil_or_concat ρ with rfl | ⟨ρ', e, rfl⟩
    · rw [List.append_nil] at he
      exact he ▸ Sat.inp τ' m h'
    · rw [List.concat_eq_append, ← List.append_assoc] at he
      exact ih σ ρ' (snoc_inj he).1
  | out τ' u x y h' h1 h2 h3 ih =>
    intro σ ρ he
    rcases List.eq_nil_or_concat ρ with rfl | ⟨ρ', e, rfl⟩
    · rw [List.append_nil] at he
      exact he ▸ Sat.out τ' u x y h' h1 h2 h3
    · rw [List.concat_eq_append, ← List.append_assoc] at he
      exact ih σ ρ' (snoc_inj he).1

theorem mem_filterMap_inpOf {σ : List Ev} {m : Msg} : m ∈ σ.filterMap Ev.inpOf ↔ Ev.inp m ∈ σ := by
  refine List.mem_filterMap.trans ⟨?_, fun h => ⟨_, h, rfl⟩⟩
  rintro ⟨e, he, hm⟩
  cases e with
  | inp m' =>
    cases hm
    exact he
  | out m' => cases hm

theorem mem_filterMap_outOf {σ : List Ev} {m : Msg} : m ∈ σ.filterMap Ev.outOf ↔ Ev.out m ∈ σ := by
  refine List.mem_filterMap.trans ⟨?_, fun h => ⟨_, h, rfl⟩⟩
  rintro ⟨e, he, hm⟩
  cases e with
  | inp m' => cases hm
  | out m' =>
    cases hm
    exact he

theorem filterMap_outOf_snoc_out (σ : List Ev) (m : Msg) :
    (σ ++ [Ev.out m]).filterMap Ev.outOf = σ.filterMap Ev.outOf ++ [m] :=
  List.filterMap_append

namespace Sat

theorem snoc_inp_inv {o : Val → List Val} {σ : List Ev} {m : Msg} (h : Sat o (σ ++ [.inp m])) :
    Sat o σ :=
  h.prefix σ _ rfl

theorem snoc_out_inv {o : Val → List Val} {σ : List Ev} {u : Nat} {y : Val}
    (h : Sat o (σ ++ [.out (u, y)])) :
    Sat o σ ∧ ∃ x, Ev.inp (u, x) ∈ σ ∧ y ∈ o x ∧ ∀ y', Ev.out (u, y') ∉ σ := by
  generalize hτ : σ ++ [Ev.out (u, y)] = τ at h
  cases h with
  | nil => exact absurd hτ (List.append_ne_nil_of_right_ne_nil _ (List.cons_ne_nil _ _))
  | inp σ' m' h' => cases (snoc_inj hτ).2
  | out σ' u' x y' h' h1 h2 h3 =>
    obtain ⟨rfl, e2⟩ := snoc_inj hτ
    cases e2
    exact ⟨h', x, h1, h2, h3⟩

theorem out_mem {o : Val → List Val} {σ : List Ev} (h : Sat o σ) :
    ∀ u y, Ev.out (u, y) ∈ σ → ∃ x, Ev.inp (u, x) ∈ σ ∧ y ∈ o x := by
  induction h with
  | nil => exact fun u y hm => nomatch hm
  | inp σ m _ ih =>
    intro u y hm
    rcases List.mem_append.mp hm with hm | hm
    · obtain ⟨x, h1, h2⟩ := ih u y hm
      exact ⟨x, List.mem_append_left _ h1, h2⟩
    · cases List.mem_singleton.mp hm
  | out σ u' x y' _ h1 h2 _ ih =>
    intro u y hm
    rcases List.mem_append.mp hm with hm | hm
    · obtain ⟨x', q1, q2⟩ := ih u y hm
      exact ⟨x', List.mem_append_left _ q1, q2⟩
    · cases List.mem_singleton.mp hm
      exact ⟨x, List.mem_append_left _ h1, h2⟩

theorem out_unique {o : Val → List Val} {σ : List Ev} (h : Sat o σ) :
    ((σ.filterMap Ev.outOf).map (·.1)).Nodup := by
  induction h with
  | nil => exact List.nodup_nil
  | inp σ m _ ih =>
    rw [List.filterMap_append]
    exact (List.append_nil _).symm ▸ ih
  | out σ u x y _ _ _ h3 ih =>
    rw [filterMap_outOf_snoc_out, List.map_append, List.nodup_append]
    refine ⟨ih, List.pairwise_singleton _ _, ?_⟩
    intro a ha b hb hab
    cases List.mem_singleton.mp hb
    obtain ⟨⟨u', y'⟩, hm, rfl⟩ := List.mem_map.mp ha
    cases hab
    exact h3 y' (mem_filterMap_outOf.mp hm)

theorem own {o : Val → List Val} {σ : List Ev} (h : Sat o σ) (hd : DistinctIn σ) {u : Nat} {x y : Val}
    (hx : Ev.inp (u, x) ∈ σ) (hy : Ev.out (u, y) ∈ σ) : y ∈ o x := by
  obtain ⟨x', h1, h2⟩ := h.out_mem u y hy
  exact fst_unique hd (mem_filterMap_inpOf.mpr h1) (mem_filterMap_inpOf.mpr hx) ▸ h2

theorem congr {o o' : Val → List Val} (h : ∀ x, o x = o' x) {σ : List Ev} (hs : Sat o σ) : Sat o' σ :=
  funext h ▸ hs

end Sat

theorem distinct_prefix {σ ρ : List Ev} (h : DistinctIn (σ ++ ρ)) : DistinctIn σ := by
  unfold DistinctIn at h ⊢
  rw [List.filterMap_append, List.map_append] at h
  exact (List.nodup_append.mp h).1

theorem nodup_recv_of_distinct {tr : List Ev} {recv qin : List Msg}
    (tr_inps : tr.filterMap Ev.inpOf = recv ++ qin) (hd : DistinctIn tr) : (recv.map (·.1)).Nodup := by
  unfold DistinctIn at hd
  rw [tr_inps, List.map_append] at hd
  exact (List.nodup_append.mp hd).1

theorem sat_emit_step {o : Val → List Val} {tr : List Ev} {recv qin : List Msg} {sentG : List GMsg}
    {t : GMsg} (hs : Sat o tr) (tr_inps : tr.filterMap Ev.inpOf = recv ++ qin)
    (tr_outs : tr.filterMap Ev.outOf = sentG.map gmsg) (hc : Contract o recv (sentG ++ [t]))
    (hn : (recv.map (·.1)).Nodup) : Sat o (tr ++ [.out (gmsg t)]) := by
  obtain ⟨h1, h2⟩ := hc.own t (List.mem_append_right _ (List.mem_singleton.mpr rfl))
  have hin : Ev.inp (t.1, t.2.1) ∈ tr := by
    apply mem_filterMap_inpOf.mp
    rw [tr_inps]
    exact List.mem_append_left _ h1
  have hnd := hc.sent_nodup hn
  rw [List.map_append, List.nodup_append] at hnd
  refine Sat.out tr t.1 t.2.1 t.2.2 hs hin h2 fun y' hy' => ?_
  have : (t.1, y') ∈ sentG.map gmsg := tr_outs ▸ mem_filterMap_outOf.mpr hy'
  obtain ⟨t', ht', hk⟩ := List.mem_map.mp this
  exact hnd.2.2 t'.1 (List.mem_map.mpr ⟨t', ht', rfl⟩) t.1 (List.mem_singleton.mpr rfl)
    (Prod.mk.inj hk).1

theorem proj_append (i : Nat) (a b : List (Nat × Ev)) : proj i (a ++ b) = proj i a ++ proj i b := by
  simp [proj, List.filter_append]

theorem proj_single (i j : Nat) (e : Ev) : proj i [(j, e)] = if j = i then [e] else [] := by
  by_cases h : j = i <;> simp [proj, h]

theorem mem_proj {i : Nat} {e : Ev} {mtr : List (Nat × Ev)} : e ∈ proj i mtr ↔ (i, e) ∈ mtr := by
  simp only [proj, List.mem_map, List.mem_filter]
  constructor
  · rintro ⟨p, ⟨h1, h2⟩, rfl⟩
    exact (of_decide_eq_true h2 : p.1 = i) ▸ h1
  · exact fun h => ⟨(i, e), ⟨h, decide_eq_true rfl⟩, rfl⟩

theorem proj_snoc_out (j : Nat) (mtr : List (Nat × Ev)) (i : Nat) (m : Msg) :
    (proj j (mtr ++ [(i, Ev.out m)])).filterMap Ev.inpOf = (proj j mtr).filterMap Ev.inpOf := by
  rw [proj_append, proj_single, List.filterMap_append]
  split <;> exact List.append_nil _

theorem proj_hand (i : Nat) (hand : List Nat) (hnd : hand.Nodup) (e : Ev) :
    proj i (hand.map (fun j => (j, e))) = if i ∈ hand then [e] else [] := by
  induction hand with
  | nil => rfl
  | cons j hand ih =>
    obtain ⟨hj, hnd⟩ := List.nodup_cons.mp hnd
    rw [List.map_cons, ← List.singleton_append, proj_append, proj_single, ih hnd]
    by_cases h : j = i
    · subst h
      simp [hj]
    · have : ¬ i = j := fun h' => h h'.symm
      simp [h, this]

structure View where
  recv : List Msg
  qin : List Msg
  /-- (member index, message handed to that member and not yet answered) -/
  pend : List (Nat × Msg)
  sentG : List GMsg
  tr : List Ev
  mtr : List (Nat × Ev)

/-- The changes a wrapped step makes to the view.  `ok` stands for "the step of the core is a step
    of the node model with member boxes `ms`": every step but `junk` is one, an `answer` provided
    the member box allows the answer. -/
inductive Move (nn : Nat) (ms : List (Val → List Val)) (ok : Prop) (v : View) : View → Prop
  | arrive (m : Msg) (h : ok) : Move nn ms ok v { v with qin := v.qin ++ [m], tr := v.tr ++ [.inp m] }
  | recv (u : Nat) (x : Val) (rest : List Msg) (hq : v.qin = (u, x) :: rest) (h : ok) :
      Move nn ms ok v { v with qin := rest, recv := v.recv ++ [(u, x)] }
  | enq (u : Nat) (x : Val) (rest : List Msg) (hand : List Nat) (hq : v.qin = (u, x) :: rest)
      (hnd : hand.Nodup) (hlt : ∀ i ∈ hand, i < nn) (h : ok) :
      Move nn ms ok v
        { v with qin := rest, recv := v.recv ++ [(u, x)],
                 pend := v.pend ++ hand.map (fun i => (i, (u, x))),
                 mtr := v.mtr ++ hand.map (fun i => (i, Ev.inp (u, x))) }
  /-- `pub`: the answer goes straight to the output queue -/
  | answer (k i u : Nat) (x y : Val) (pub : Bool) (hk : v.pend[k]? = some (i, (u, x)))
      (h : y ∈ (ms.getD i (fun _ => [])) x → ok) :
      Move nn ms ok v
        { v with pend := v.pend.eraseIdx k, mtr := v.mtr ++ [(i, .out (u, y))],
                 sentG := bif pub then v.sentG ++ [(u, x, y)] else v.sentG,
                 tr := bif pub then v.tr ++ [.out (u, y)] else v.tr }
  | emit (t : GMsg) (h : ok) : Move nn ms ok v { v with sentG := v.sentG ++ [t], tr := v.tr ++ [.out (gmsg t)] }
  | silent (h : ok) : Move nn ms ok v v
  | junk (i : Nat) (m : Msg) (pub : Bool) (hi : i < nn) (hg : ∀ p ∈ v.pend, ¬ (p.1 = i ∧ p.2.1 = m.1)) :
      Move nn ms ok v { v with tr := bif pub then v.tr ++ [.out m] else v.tr, mtr := v.mtr ++ [(i, .out m)] }

/-- what holds of the view however the members behave -/
structure Basic (nn : Nat) (v : View) : Prop where
  tr_inps : v.tr.filterMap Ev.inpOf = v.recv ++ v.qin
  pend_lt : ∀ p ∈ v.pend, p.1 < nn
  mtr_inps : ∀ i, ((proj i v.mtr).filterMap Ev.inpOf).Sublist v.recv

def Hyp (ms : List (Val → List Val)) (nn : Nat) (v : View) : Prop :=
  DistinctIn v.tr ∧ ∀ i, i < nn → Sat (ms.getD i (fun _ => [])) (proj i v.mtr)

/-- what holds as long as the members behave -/
structure Linked (o : Val → List Val) (v : View) : Prop where
  tr_outs : v.tr.filterMap Ev.outOf = v.sentG.map gmsg
  handed : ∀ i u x, (i, Ev.inp (u, x)) ∈ v.mtr → (∃ y, (i, Ev.out (u, y)) ∈ v.mtr) ∨ (i, (u, x)) ∈ v.pend
  pend_handed : ∀ p ∈ v.pend, (p.1, Ev.inp p.2) ∈ v.mtr
  pend_open : ∀ p ∈ v.pend, ∀ y, (p.1, Ev.out (p.2.1, y)) ∉ v.mtr
  sat : Sat o v.tr

section
variable {nn : Nat} {ms : List (Val → List Val)} {ok : Prop} {o : Val → List Val} {v v' : View}

namespace Basic

theorem mem_inp_recv (hu : Basic nn v) {i u : Nat} {x : Val} (h : (i, Ev.inp (u, x)) ∈ v.mtr) :
    (u, x) ∈ v.recv :=
  (hu.mtr_inps i).subset (mem_filterMap_inpOf.mpr (mem_proj.mpr h))

theorem member_distinct (hu : Basic nn v) (hd : DistinctIn v.tr) (i : Nat) : DistinctIn (proj i v.mtr) :=
  ((hu.mtr_inps i).map _).nodup (nodup_recv_of_distinct hu.tr_inps hd)

end Basic

namespace Move

theorem basic_step (hm : Move nn ms ok v v') (hu : Basic nn v) : Basic nn v' := by
  obtain ⟨tr_inps, pend_lt, mtr_inps⟩ := hu
  have out : ∀ (pub : Bool) (m : Msg),
      (bif pub then v.tr ++ [.out m] else v.tr).filterMap Ev.inpOf = v.recv ++ v.qin := by
    intro pub m
    cases pub
    · exact tr_inps
    · show (v.tr ++ [Ev.out m]).filterMap Ev.inpOf = _
      rw [List.filterMap_append, tr_inps]
      exact List.append_nil _
  cases hm with
  | arrive m h =>
    refine ⟨?_, pend_lt, mtr_inps⟩
    rw [List.filterMap_append, tr_inps, List.append_assoc]
    rfl
  | recv u x rest hq h =>
    refine ⟨?_, pend_lt, fun i => (mtr_inps i).trans (List.sublist_append_left _ _)⟩
    rw [tr_inps, hq, List.append_assoc]
    rfl
  | enq u x rest hand hq hnd hlt h =>
    refine ⟨?_, List.forall_mem_append.mpr ⟨pend_lt, fun p hp => ?_⟩, fun i => ?_⟩
    · rw [tr_inps, hq, List.append_assoc]
      rfl
    · obtain ⟨j, hj, rfl⟩ := List.mem_map.mp hp
      exact hlt j hj
    · rw [proj_append, List.filterMap_append, proj_hand i hand hnd]
      refine (mtr_inps i).append ?_
      split
      · exact List.Sublist.refl _
      · exact List.nil_sublist _
  | answer k i u x y pub hk h =>
    refine ⟨out pub _, fun p hp => pend_lt p (List.mem_of_mem_eraseIdx hp), fun j => ?_⟩
    rw [proj_snoc_out]
    exact mtr_inps j
  | emit t h => exact ⟨out true _, pend_lt, mtr_inps⟩
  | silent h => exact ⟨tr_inps, pend_lt, mtr_inps⟩
  | junk i m pub hi hg =>
    refine ⟨out pub _, pend_lt, fun j => ?_⟩
    rw [proj_snoc_out]
    exact mtr_inps j

theorem hyp_prefix (hm : Move nn ms ok v v') (hh : Hyp ms nn v') : Hyp ms nn v := by
  have grows : ∃ a b, v'.tr = v.tr ++ a ∧ v'.mtr = v.mtr ++ b := by
    cases hm with
    | arrive m h => exact ⟨_, [], rfl, (List.append_nil _).symm⟩
    | recv u x rest hq h => exact ⟨[], [], (List.append_nil _).symm, (List.append_nil _).symm⟩
    | enq u x rest hand hq hnd hlt h => exact ⟨[], _, (List.append_nil _).symm, rfl⟩
    | answer k i u x y pub hk h =>
      cases pub
      · exact ⟨[], _, (List.append_nil _).symm, rfl⟩
      · exact ⟨_, _, rfl, rfl⟩
    | emit t h => exact ⟨_, [], rfl, (List.append_nil _).symm⟩
    | silent h => exact ⟨[], [], (List.append_nil _).symm, (List.append_nil _).symm⟩
    | junk i m pub hi hg =>
      cases pub
      · exact ⟨[], _, (List.append_nil _).symm, rfl⟩
      · exact ⟨_, _, rfl, rfl⟩
  obtain ⟨a, b, ha, hb⟩ := grows
  obtain ⟨h1, h2⟩ := hh
  rw [ha] at h1
  refine ⟨distinct_prefix h1, fun i hi => ?_⟩
  have := h2 i hi
  rw [hb, proj_append] at this
  exact this.prefix _ _ rfl

/-- If the members have kept their contracts up to and including this step (`hh` is about `v'`),
    the step is one of the node model with member boxes: a member's own contract yields the guard of
    its box and forbids `junk`. -/
theorem linked_step (hm : Move nn ms ok v v') (hu : Basic nn v) (hc : Linked o v) (hh : Hyp ms nn v')
    (hkey : (v.pend.map pkey).Nodup)
    (hcon : ok → Contract o v'.recv v'.sentG) : ok ∧ Linked o v' := by
  have hh0 := hm.hyp_prefix hh
  have hnd : (v.recv.map (·.1)).Nodup := nodup_recv_of_distinct hu.tr_inps hh0.1
  have hnd' : (v'.recv.map (·.1)).Nodup := nodup_recv_of_distinct (hm.basic_step hu).tr_inps hh.1
  obtain ⟨tr_outs, handed, pend_handed, pend_open, hsat⟩ := hc
  cases hm with
  | arrive m h =>
    refine ⟨h, ?_, handed, pend_handed, pend_open, Sat.inp _ m hsat⟩
    rw [List.filterMap_append, tr_outs]
    exact List.append_nil _
  | recv u x rest hq h => exact ⟨h, tr_outs, handed, pend_handed, pend_open, hsat⟩
  | enq u x rest hand hq hnd2 hlt h =>
    refine ⟨h, tr_outs, ?_, ?_, ?_, hsat⟩
    · intro i u' x' hmem
      rcases List.mem_append.mp hmem with hmem | hmem
      · exact (handed i u' x' hmem).imp (fun ⟨y, hy⟩ => ⟨y, List.mem_append_left _ hy⟩)
          (List.mem_append_left _)
      · obtain ⟨j, hj, he⟩ := List.mem_map.mp hmem
        cases he
        exact Or.inr (List.mem_append_right _ (List.mem_map.mpr ⟨_, hj, rfl⟩))
    · intro p hp
      rcases List.mem_append.mp hp with hp | hp
      · exact List.mem_append_left _ (pend_handed p hp)
      · obtain ⟨j, hj, rfl⟩ := List.mem_map.mp hp
        exact List.mem_append_right _ (List.mem_map.mpr ⟨j, hj, rfl⟩)
    · intro p hp y hmem
      have hold : (p.1, Ev.out (p.2.1, y)) ∈ v.mtr := by
        rcases List.mem_append.mp hmem with hmem | hmem
        · exact hmem
        · obtain ⟨j, -, he⟩ := List.mem_map.mp hmem
          cases he
      rcases List.mem_append.mp hp with hp | hp
      · exact pend_open p hp y hold
      · obtain ⟨j, hj, rfl⟩ := List.mem_map.mp hp
        -- an earlier answer of member `j` for the fresh uid `u` would need an earlier input with uid `u`
        obtain ⟨x', q1, -⟩ := (hh0.2 j (hlt j hj)).out_mem u y (mem_proj.mpr hold)
        have := hu.mem_inp_recv (mem_proj.mp q1)
        exact (nodup_snoc hnd').2 (List.mem_map.mpr ⟨(u, x'), this, rfl⟩)
  | answer k i u x y pub hk h =>
    have h1 := hh.2 i (hu.pend_lt _ (List.mem_of_getElem? hk))
    rw [proj_append, proj_single, if_pos rfl] at h1
    obtain ⟨-, x', q1, q2, -⟩ := h1.snoc_out_inv
    have hx : x' = x := fst_unique hnd (hu.mem_inp_recv (mem_proj.mp q1))
      (hu.mem_inp_recv (pend_handed _ (List.mem_of_getElem? hk)))
    subst hx
    have hok := h q2
    have hperm := eraseIdx_perm hk
    have handed' : ∀ j u' x, (j, Ev.inp (u', x)) ∈ v.mtr ++ [(i, Ev.out (u, y))] →
        (∃ y', (j, Ev.out (u', y')) ∈ v.mtr ++ [(i, Ev.out (u, y))]) ∨ (j, (u', x)) ∈ v.pend.eraseIdx k := by
      intro j u' x hmem
      rcases List.mem_append.mp hmem with hmem | hmem
      · rcases handed j u' x hmem with ⟨y', h2⟩ | h2
        · exact Or.inl ⟨y', List.mem_append_left _ h2⟩
        · rcases List.mem_cons.mp (hperm.mem_iff.mp h2) with he | h2
          · cases he
            exact Or.inl ⟨y, List.mem_append_right _ (List.mem_singleton.mpr rfl)⟩
          · exact Or.inr h2
      · cases List.mem_singleton.mp hmem
    have pend_handed' : ∀ p ∈ v.pend.eraseIdx k, (p.1, Ev.inp p.2) ∈ v.mtr ++ [(i, Ev.out (u, y))] :=
      fun p hp => List.mem_append_left _ (pend_handed p (List.mem_of_mem_eraseIdx hp))
    have pend_open' : ∀ p ∈ v.pend.eraseIdx k, ∀ y', (p.1, Ev.out (p.2.1, y')) ∉ v.mtr ++ [(i, Ev.out (u, y))] := by
      intro p hp y' hmem
      rcases List.mem_append.mp hmem with hmem | hmem
      · exact pend_open p (List.mem_of_mem_eraseIdx hp) y' hmem
      · -- no other pending message has the member and uid of the one answered
        have := (hperm.map pkey).nodup_iff.mp hkey
        obtain ⟨j, u', x⟩ := p
        cases List.mem_singleton.mp hmem
        exact (List.nodup_cons.mp this).1 (List.mem_map.mpr ⟨_, hp, rfl⟩)
    cases pub with
    | false => exact ⟨hok, tr_outs, handed', pend_handed', pend_open', hsat⟩
    | true =>
      refine ⟨hok, ?_, handed', pend_handed', pend_open', sat_emit_step (t := (u, x', y)) hsat hu.tr_inps tr_outs (hcon hok) hnd⟩
      show (v.tr ++ [Ev.out (u, y)]).filterMap Ev.outOf = (v.sentG ++ [(u, x', y)]).map gmsg
      rw [filterMap_outOf_snoc_out, tr_outs, List.map_append]
      rfl
  | emit t h =>
    refine ⟨h, ?_, handed, pend_handed, pend_open, sat_emit_step hsat hu.tr_inps tr_outs (hcon h) hnd⟩
    show (v.tr ++ [Ev.out (gmsg t)]).filterMap Ev.outOf = (v.sentG ++ [t]).map gmsg
    rw [filterMap_outOf_snoc_out, tr_outs, List.map_append]
    rfl
  | silent h => exact ⟨h, tr_outs, handed, pend_handed, pend_open, hsat⟩
  | junk i m pub hi hg =>
    exfalso
    have h1 := hh.2 i hi
    rw [proj_append, proj_single, if_pos rfl] at h1
    obtain ⟨u, y⟩ := m
    obtain ⟨-, x', q1, -, q3⟩ := h1.snoc_out_inv
    rcases handed i u x' (mem_proj.mp q1) with ⟨y', h2⟩ | h2
    · exact q3 y' (mem_proj.mpr h2)
    · exact hg _ h2 ⟨rfl, rfl⟩

end Move

/-- **The lifting.**  In the instances `Good s` says that `s` was reached by steps of the node model
    with member boxes `ms` only.  The invariant assumes `Hyp` of the current state alone, which is
    enough because `Hyp` is closed under prefixes (`hyp_prefix`). -/
theorem lift_run {St A : Type} {lstep : St → A → Option St} {view : St → View} {Good : St → Prop}
    {init : St}
    (hmove : ∀ s a s', lstep s a = some s' → Move nn ms (Good s → Good s') (view s) (view s'))
    (hgood : ∀ s, Good s → ((view s).recv.map (·.1)).Nodup →
      Contract o (view s).recv (view s).sentG ∧ ((view s).pend.map pkey).Nodup)
    (h0 : Good init) (hv : view init = ⟨[], [], [], [], [], []⟩)
    (as : List A) (s : St) (hr : Core.run lstep init as = some s) :
    Basic nn (view s) ∧ (Hyp ms nn (view s) → Good s ∧ Linked o (view s)) := by
  refine Core.invariant_run
    (Inv := fun s => Basic nn (view s) ∧ (Hyp ms nn (view s) → Good s ∧ Linked o (view s))) ?_ as init s ?_ hr
  · intro s a s' ⟨hu, hc⟩ hs
    have hm := hmove s a s' hs
    have hu' := hm.basic_step hu
    refine ⟨hu', fun hh => ?_⟩
    have hh0 := hm.hyp_prefix hh
    obtain ⟨hg, hc0⟩ := hc hh0
    have hnd := nodup_recv_of_distinct hu.tr_inps hh0.1
    have hnd' := nodup_recv_of_distinct hu'.tr_inps hh.1
    obtain ⟨hok, hc'⟩ := hm.linked_step hu hc0 hh (hgood s hg hnd).2 fun hok => (hgood s' (hok hg) hnd').1
    exact ⟨hok hg, hc'⟩
  · rw [hv]
    exact ⟨⟨rfl, nofun, fun _ => List.nil_sublist _⟩, fun _ => ⟨h0, rfl, nofun, nofun, nofun, Sat.nil⟩⟩

namespace Basic

/-- `0 + i` is the shape in which `all_sat` at offset `0` delivers `h` -/
theorem hyp_of_members (hu : Basic nn v) (hd : DistinctIn v.tr)
    (h : (∀ i, i < nn → DistinctIn (proj (0 + i) v.mtr)) →
      ∀ i, i < nn → Sat (ms.getD i (fun _ => [])) (proj (0 + i) v.mtr)) : Hyp ms nn v := by
  simp only [Nat.zero_add] at h
  exact ⟨hd, h fun i _ => hu.member_distinct hd i⟩

theorem pend_nil (hu : Basic nn v) (hc : Linked o v) (hd : DistinctIn v.tr)
    (h : (∀ i, i < nn → DistinctIn (proj (0 + i) v.mtr)) →
      ∀ i, i < nn → ∀ u x, Ev.inp (u, x) ∈ proj (0 + i) v.mtr → ∃ y, Ev.out (u, y) ∈ proj (0 + i) v.mtr) :
    v.pend = [] := by
  simp only [Nat.zero_add] at h
  refine List.eq_nil_iff_forall_not_mem.mpr fun p hp => ?_
  obtain ⟨y, hy⟩ := h (fun i _ => hu.member_distinct hd i) p.1 (hu.pend_lt p hp) p.2.1 p.2.2
    (mem_proj.mpr (hc.pend_handed p hp))
  exact hc.pend_open p hp y (mem_proj.mp hy)

theorem answered (hu : Basic nn v) (hc : Linked o v) (hq : v.qin = []) (hcomp : Complete v.recv v.sentG)
    (u : Nat) (x : Val) (h : Ev.inp (u, x) ∈ v.tr) : ∃ y, Ev.out (u, y) ∈ v.tr := by
  have : (u, x) ∈ v.recv := by
    have := mem_filterMap_inpOf.mpr h
    rwa [hu.tr_inps, hq, List.append_nil] at this
  obtain ⟨t, ht, hk⟩ := hcomp.answered _ this
  refine ⟨t.2.2, mem_filterMap_outOf.mp ?_⟩
  rw [hc.tr_outs]
  exact List.mem_map.mpr ⟨t, ht, Prod.ext (Prod.mk.inj hk).1 rfl⟩

end Basic

end

namespace WkL

abbrev view (s : State) : View := ⟨s.core.recv, s.core.qin, [], s.core.sentG, s.tr, []⟩

theorem move (w : WSpec) (s : State) (a : Wk.Act) (s' : State) (h : step w s a = some s') :
    Move 0 [] (Core.Reach (Wk.step w) Wk.init s.core → Core.Reach (Wk.step w) Wk.init s'.core)
      (view s) (view s') := by
  unfold step at h
  cases hc : Wk.step w s.core a with
  | none =>
    rw [hc] at h
    cases h
  | some c =>
    rw [hc] at h
    have ok : Core.Reach (Wk.step w) Wk.init s.core → Core.Reach (Wk.step w) Wk.init c :=
      fun g => g.tail hc
    cases Wk.step_sound hc with
    | arrive m =>
      cases h
      exact .arrive m ok
    | takeShort u x r rest hq hr | takeHeld u x rest hq hx hp =>
      cases h
      exact .recv u x rest hq ok
    | emit k t hk =>
      simp only [hk] at h
      cases h
      exact .emit t ok
    | start mask hl hne hsz hnw | finish k b hk | deliver m rest hq =>
      cases h
      exact .silent ok

theorem lift (w : WSpec) (hb : Wk.BerrsOk w) (as : List Wk.Act) (s : State)
    (hr : Core.run (step w) init as = some s) :
    Basic 0 (view s) ∧ (Hyp [] 0 (view s) → Core.Reach (Wk.step w) Wk.init s.core ∧ Linked (wouts w) (view s)) :=
  lift_run (view := view) (init := init) (Good := fun s => Core.Reach (Wk.step w) Wk.init s.core) (move w)
    (fun s ⟨as', hr'⟩ _ => ⟨(Wk.contract w hb as' s.core hr').1, List.nodup_nil⟩)
    (Core.Reach.refl _ _) rfl as s hr

end WkL

theorem anyMs_length (nn : Nat) (y : Val) : (anyMs nn y).length = nn := List.length_replicate

theorem anyMs_getD (nn i : Nat) (y : Val) (h : i < nn) : (anyMs nn y).getD i (fun _ => []) = fun _ => [y] := by
  simp [anyMs, List.getD_eq_getElem?_getD, h]

theorem Ens.step_ms_irrel (ms ms' : List (Val → List Val)) (ff : Bool) (c : Ens.State) (a : Ens.Act)
    (hl : ms.length = ms'.length) (ha : ∀ k y, a ≠ .memberOut k y) :
    Ens.step ms ff c a = Ens.step ms' ff c a := by
  cases a with
  | memberOut k y => exact absurd rfl (ha k y)
  | enq => simp only [Ens.step, hl]
  | deq k => simp only [Ens.step, hl]
  | _ => rfl

theorem Sw.step_ms_irrel (ms ms' : List (Val → List Val)) (sel : Val → Nat) (c : Sw.State) (a : Sw.Act)
    (hl : ms.length = ms'.length) (ha : ∀ k y, a ≠ .memberOut k y) :
    Sw.step ms sel c a = Sw.step ms' sel c a := by
  cases a with
  | memberOut k y => exact absurd rfl (ha k y)
  | enq => simp only [Sw.step, hl]
  | _ => rfl

namespace EnsL

abbrev view (s : State) : View := ⟨s.core.recv, s.core.qin, s.core.pend, s.core.sentG, s.tr, s.mtr⟩

/-- a wrapped step is a step of `Ens` with the member guard switched off (`anyMs`) -/
theorem move (ms : List (Val → List Val)) (nn : Nat) (ff : Bool) (hms : ms.length = nn)
    (s : State) (a : Act) (s' : State) (h : step nn ff s a = some s') :
    Move nn ms (Core.Reach (Ens.step ms ff) Ens.init s.core → Core.Reach (Ens.step ms ff) Ens.init s'.core)
      (view s) (view s') := by
  cases a with
  | junk i m =>
    simp only [step] at h
    split at h
    · rename_i hg
      cases h
      refine .junk i m false hg.1 fun p hp hc => ?_
      have := List.all_eq_true.mp hg.2 p hp
      simp [hc.1, hc.2] at this
    · cases h
  | node a' =>
    have ok : ∀ c, (∀ k y, a' ≠ .memberOut k y) → Ens.step (anyMs nn .nil) ff s.core a' = some c →
        Core.Reach (Ens.step ms ff) Ens.init s.core → Core.Reach (Ens.step ms ff) Ens.init c := by
      intro c ha hc g
      rw [← Ens.step_ms_irrel ms _ ff _ _ (hms.trans (anyMs_length nn _).symm) ha] at hc
      exact g.tail hc
    cases a' with
    | arrive m =>
      simp only [step, Option.map_eq_some_iff] at h
      obtain ⟨c, hc, rfl⟩ := h
      have ok := ok c nofun hc
      cases Ens.step_sound hc
      exact .arrive m ok
    | enq =>
      simp only [step] at h
      split at h
      · rename_i u x rest hq
        simp only [Option.map_eq_some_iff] at h
        obtain ⟨c, hc, rfl⟩ := h
        cases Ens.step_sound hc with
        | enqExc u' x' rest' hq' hx =>
          cases hq.symm.trans hq'
          rw [if_pos hx, List.append_nil]
          exact .recv u x rest hq (ok _ nofun hc)
        | enqNew u' x' rest' hq' hx =>
          cases hq.symm.trans hq'
          unfold Ens.enqNew at hc ⊢
          rw [anyMs_length] at hc ⊢
          rw [if_neg (Bool.eq_false_iff.mp hx)]
          exact .enq u x rest (List.range nn) hq List.nodup_range (fun i hi => List.mem_range.mp hi)
            (ok _ nofun hc)
      · cases h
    | memberOut k y =>
      simp only [step] at h
      split at h
      · rename_i i u x hk
        simp only [Option.map_eq_some_iff] at h
        obtain ⟨c, hc, rfl⟩ := h
        cases Ens.step_sound hc with
        | memberOut _ i' u' x' _ hk' hy' =>
          cases hk.symm.trans hk'
          have strict : y ∈ (ms.getD i (fun _ => [])) x → Ens.step ms ff s.core (.memberOut k y) = some _ :=
            fun hy => by
              simp only [Ens.step, hk, hy, if_true]
              rfl
          exact .answer k i u x y false hk fun hy g => Core.Reach.tail g (strict hy)
      · cases h
    | emit k =>
      simp only [step] at h
      split at h
      · rename_i t ht
        simp only [Option.map_eq_some_iff] at h
        obtain ⟨c, hc, rfl⟩ := h
        have ok := ok c nofun hc
        cases Ens.step_sound hc with
        | emit _ t' ht' =>
          cases ht.symm.trans ht'
          exact .emit t ok
      · cases h
    | deq k | deliver =>
      simp only [step, Option.map_eq_some_iff] at h
      obtain ⟨c, hc, rfl⟩ := h
      have ok := ok c nofun hc
      cases Ens.step_sound hc
      all_goals exact .silent ok

theorem lift (ms : List (Val → List Val)) (nn : Nat) (ff : Bool) (hms : ms.length = nn) (hpos : 0 < nn)
    (as : List Act) (s : State) (hr : Core.run (step nn ff) init as = some s) :
    Basic nn (view s) ∧
      (Hyp ms nn (view s) → Core.Reach (Ens.step ms ff) Ens.init s.core ∧ Linked (eouts ms ff) (view s)) :=
  lift_run (view := view) (init := init) (Good := fun s => Core.Reach (Ens.step ms ff) Ens.init s.core)
    (move ms nn ff hms)
    (fun s ⟨as', hr'⟩ hn =>
      ⟨(Ens.contract ms ff (hms ▸ hpos) as' s.core hr' hn).1,
       Ens.pend_nodup (Ens.inv_run (hms ▸ hpos) hr' hn)⟩)
    (Core.Reach.refl _ _) rfl as s hr

end EnsL

namespace SwL

abbrev view (s : State) : View := ⟨s.core.recv, s.core.qin, s.core.pend, s.core.sentG, s.tr, s.mtr⟩

theorem move (ms : List (Val → List Val)) (nn : Nat) (sel : Val → Nat) (hms : ms.length = nn)
    (s : State) (a : Act) (s' : State) (h : step nn sel s a = some s') :
    Move nn ms (Core.Reach (Sw.step ms sel) Sw.init s.core → Core.Reach (Sw.step ms sel) Sw.init s'.core)
      (view s) (view s') := by
  cases a with
  | junk i m =>
    simp only [step] at h
    split at h
    · rename_i hg
      cases h
      refine .junk i m true hg.1 fun p hp hc => ?_
      have := List.all_eq_true.mp hg.2 p hp
      simp [hc.1, hc.2] at this
    · cases h
  | node a' =>
    have ok : ∀ c, (∀ k y, a' ≠ .memberOut k y) → Sw.step (anyMs nn .nil) sel s.core a' = some c →
        Core.Reach (Sw.step ms sel) Sw.init s.core → Core.Reach (Sw.step ms sel) Sw.init c := by
      intro c ha hc g
      rw [← Sw.step_ms_irrel ms _ sel _ _ (hms.trans (anyMs_length nn _).symm) ha] at hc
      exact g.tail hc
    cases a' with
    | arrive m =>
      simp only [step, Option.map_eq_some_iff] at h
      obtain ⟨c, hc, rfl⟩ := h
      have ok := ok c nofun hc
      cases Sw.step_sound hc
      exact .arrive m ok
    | enq =>
      simp only [step] at h
      split at h
      · rename_i u x rest hq
        simp only [Option.map_eq_some_iff] at h
        obtain ⟨c, hc, rfl⟩ := h
        cases Sw.step_sound hc with
        | enqExc u' x' rest' hq' hx =>
          cases hq.symm.trans hq'
          rw [if_pos hx, List.append_nil]
          exact .recv u x rest hq (ok _ nofun hc)
        | enqNew u' x' rest' hq' hx hlt =>
          cases hq.symm.trans hq'
          rw [if_neg (Bool.eq_false_iff.mp hx)]
          rw [anyMs_length] at hlt
          exact .enq u x rest [sel x] hq (List.pairwise_singleton _ _)
            (fun i hi => List.mem_singleton.mp hi ▸ hlt) (ok _ nofun hc)
      · cases h
    | memberOut k y =>
      simp only [step] at h
      split at h
      · rename_i i u x hk
        simp only [Option.map_eq_some_iff] at h
        obtain ⟨c, hc, rfl⟩ := h
        cases Sw.step_sound hc with
        | memberOut _ i' u' x' _ hk' hy' =>
          cases hk.symm.trans hk'
          have strict : y ∈ (ms.getD i (fun _ => [])) x → Sw.step ms sel s.core (.memberOut k y) = some _ :=
            fun hy => by
              simp only [Sw.step, hk, hy, if_true]
              rfl
          exact .answer k i u x y true hk fun hy g => Core.Reach.tail g (strict hy)
      · cases h
    | emit k =>
      simp only [step] at h
      split at h
      · rename_i t ht
        simp only [Option.map_eq_some_iff] at h
        obtain ⟨c, hc, rfl⟩ := h
        have ok := ok c nofun hc
        cases Sw.step_sound hc with
        | emit _ t' ht' =>
          cases ht.symm.trans ht'
          exact .emit t ok
      · cases h
    | deliver =>
      simp only [step, Option.map_eq_some_iff] at h
      obtain ⟨c, hc, rfl⟩ := h
      have ok := ok c nofun hc
      cases Sw.step_sound hc
      exact .silent ok

theorem lift (ms : List (Val → List Val)) (nn : Nat) (sel : Val → Nat) (hms : ms.length = nn)
    (as : List Act) (s : State) (hr : Core.run (step nn sel) init as = some s) :
    Basic nn (view s) ∧
      (Hyp ms nn (view s) → Core.Reach (Sw.step ms sel) Sw.init s.core ∧ Linked (souts ms sel) (view s)) :=
  lift_run (view := view) (init := init) (Good := fun s => Core.Reach (Sw.step ms sel) Sw.init s.core)
    (move ms nn sel hms)
    (fun s ⟨as', hr'⟩ hn =>
      ⟨(Sw.contract ms sel as' s.core hr').1, Sw.pend_nodup (Sw.inv_run hr') hn⟩)
    (Core.Reach.refl _ _) rfl as s hr

end SwL

theorem pA_append (a b : List Ev3) : pA (a ++ b) = pA a ++ pA b := by
  induction a with
  | nil => rfl
  | cons e a ih => cases e <;> simp [pA, ih]

theorem pB_append (a b : List Ev3) : pB (a ++ b) = pB a ++ pB b := by
  induction a with
  | nil => rfl
  | cons e a ih => cases e <;> simp [pB, ih]

theorem pE_append (a b : List Ev3) : pE (a ++ b) = pE a ++ pE b := by
  induction a with
  | nil => rfl
  | cons e a ih => cases e <;> simp [pE, ih]

theorem mem_pA_inp (τ : List Ev3) (m : Msg) : Ev.inp m ∈ pA τ ↔ Ev3.extIn m ∈ τ := by
  induction τ with
  | nil => simp [pA]
  | cons e τ ih => cases e <;> simp [pA, ih]

theorem mem_pA_out (τ : List Ev3) (m : Msg) : Ev.out m ∈ pA τ ↔ Ev3.mid m ∈ τ := by
  induction τ with
  | nil => simp [pA]
  | cons e τ ih => cases e <;> simp [pA, ih]

theorem mem_pB_inp (τ : List Ev3) (m : Msg) : Ev.inp m ∈ pB τ ↔ Ev3.mid m ∈ τ := by
  induction τ with
  | nil => simp [pB]
  | cons e τ ih => cases e <;> simp [pB, ih]

theorem mem_pB_out (τ : List Ev3) (m : Msg) : Ev.out m ∈ pB τ ↔ Ev3.extOut m ∈ τ := by
  induction τ with
  | nil => simp [pB]
  | cons e τ ih => cases e <;> simp [pB, ih]

theorem mem_pE_inp (τ : List Ev3) (m : Msg) : Ev.inp m ∈ pE τ ↔ Ev3.extIn m ∈ τ := by
  induction τ with
  | nil => simp [pE]
  | cons e τ ih => cases e <;> simp [pE, ih]

theorem mem_pE_out (τ : List Ev3) (m : Msg) : Ev.out m ∈ pE τ ↔ Ev3.extOut m ∈ τ := by
  induction τ with
  | nil => simp [pE]
  | cons e τ ih => cases e <;> simp [pE, ih]

theorem inps_pA_eq_pE (τ : List Ev3) : (pA τ).filterMap Ev.inpOf = (pE τ).filterMap Ev.inpOf := by
  induction τ with
  | nil => rfl
  | cons e τ ih => cases e <;> simp [pA, pE, List.filterMap_cons, ih]

theorem inps_pB_eq_outs_pA (τ : List Ev3) : (pB τ).filterMap Ev.inpOf = (pA τ).filterMap Ev.outOf := by
  induction τ with
  | nil => rfl
  | cons e τ ih => cases e <;> simp [pA, pB, List.filterMap_cons, ih]

theorem inp_pA_iff {τ : List Ev3} {m : Msg} : Ev.inp m ∈ pA τ ↔ Ev.inp m ∈ pE τ :=
  (mem_pA_inp τ m).trans (mem_pE_inp τ m).symm

theorem out_pA_iff {τ : List Ev3} {m : Msg} : Ev.out m ∈ pA τ ↔ Ev.inp m ∈ pB τ :=
  (mem_pA_out τ m).trans (mem_pB_inp τ m).symm

theorem out_pB_iff {τ : List Ev3} {m : Msg} : Ev.out m ∈ pB τ ↔ Ev.out m ∈ pE τ :=
  (mem_pB_out τ m).trans (mem_pE_out τ m).symm

theorem distinct_pA {τ : List Ev3} (hd : DistinctIn (pE τ)) : DistinctIn (pA τ) := by
  unfold DistinctIn at hd ⊢
  rw [inps_pA_eq_pE]
  exact hd

/-- the proviso of the rest comes from the contract of the first stage -/
theorem distinct_pB {oA : Val → List Val} {τ : List Ev3} (hA : Sat oA (pA τ)) : DistinctIn (pB τ) := by
  unfold DistinctIn
  rw [inps_pB_eq_outs_pA]
  exact hA.out_unique

theorem seq_sat (oA oB : Val → List Val) : ∀ (n : Nat) (τ : List Ev3), τ.length = n →
    Sat oA (pA τ) → Sat oB (pB τ) → Sat (fun x => (oA x).flatMap oB) (pE τ) := by
  intro n
  induction n with
  | zero =>
    intro τ hl _ _
    cases List.eq_nil_of_length_eq_zero hl
    exact Sat.nil
  | succ n ih =>
    intro τ hl hA hB
    rcases List.eq_nil_or_concat τ with rfl | ⟨τ', e, rfl⟩
    · cases hl
    · rw [List.concat_eq_append] at hl hA hB ⊢
      have hl' : τ'.length = n := by simpa using hl
      rw [pA_append] at hA
      rw [pB_append] at hB
      rw [pE_append]
      cases e with
      | extIn m => exact Sat.inp _ m (ih τ' hl' hA.snoc_inp_inv (hB.prefix _ _ rfl))
      | mid m =>
        show Sat _ (pE τ' ++ [])
        rw [List.append_nil]
        exact ih τ' hl' (hA.prefix _ _ rfl) hB.snoc_inp_inv
      | extOut m =>
        obtain ⟨u, z⟩ := m
        have hA : Sat oA (pA τ') := hA.prefix _ _ rfl
        obtain ⟨hB', y, q1, q2, q3⟩ := hB.snoc_out_inv
        obtain ⟨x, r1, r2⟩ := hA.out_mem u y (out_pA_iff.mpr q1)
        exact Sat.out _ u x z (ih τ' hl' hA hB') (inp_pA_iff.mp r1)
          (List.mem_flatMap.mpr ⟨y, r2, q2⟩) fun y' hy' => q3 y' (out_pB_iff.mpr hy')

mutual
/-- well-formed trees: every batched worker's `berrs` covers what its batched `call` may raise;
    an ensemble has at least one member (the code asserts more than one) -/
def WF : Tree → Prop
  | .worker w => Wk.BerrsOk w
  | .seq ts => WFs ts
  | .ens ts _ => 0 < ts.length ∧ WFs ts
  | .switch ts _ => WFs ts
def WFs : List Tree → Prop
  | [] => True
  | t :: ts => WF t ∧ WFs ts
end

theorem flatMap_pure {α : Type} (l : List α) : l.flatMap (fun y => [y]) = l := by
  induction l with
  | nil => rfl
  | cons a l ih => simp [List.flatMap_cons, ih]

mutual
/-- **Whole-tree theorem.**  Every boundary trace of a concrete servlet tree — every node
    operational, every interleaving, members constrained only by being behaviours of the member
    subtrees — whose input uids are pairwise distinct satisfies the trace contract for the
    denotation `outs t`: each message put on the tree's output queue is `(u, y)` for an earlier input
    `(u, x)` with `y ∈ outs t x`, and no uid is answered twice. -/
theorem tree_sat : (t : Tree) → WF t → ∀ σ, Tr t σ → DistinctIn σ → Sat (outs t) σ
  | .worker w, hw, σ, htr, hd => by
    obtain ⟨as, s, hr, rfl⟩ := htr
    exact ((WkL.lift w hw as s hr).2 ⟨hd, nofun⟩).2.sat
  | .seq ts, hw, σ, htr, hd => seqs_sat ts hw σ htr hd
  | .ens ts ff, hw, σ, htr, hd => by
    obtain ⟨as, s, hr, rfl, hall⟩ := htr
    obtain ⟨hu, hc⟩ := EnsL.lift (ts.map outs) ts.length ff (List.length_map _) hw.1 as s hr
    exact outs_ens ts ff ▸ (hc (hu.hyp_of_members hd (all_sat ts hw.2 0 s.mtr hall))).2.sat
  | .switch ts sel, hw, σ, htr, hd => by
    obtain ⟨as, s, hr, rfl, hall⟩ := htr
    obtain ⟨hu, hc⟩ := SwL.lift (ts.map outs) ts.length sel (List.length_map _) as s hr
    exact outs_switch ts sel ▸ (hc (hu.hyp_of_members hd (all_sat ts hw 0 s.mtr hall))).2.sat
theorem all_sat : (ts : List Tree) → WFs ts → ∀ (k : Nat) (mtr : List (Nat × Ev)), TrAll ts k mtr →
    (∀ i, i < ts.length → DistinctIn (proj (k + i) mtr)) →
    ∀ i, i < ts.length → Sat ((ts.map outs).getD i (fun _ => [])) (proj (k + i) mtr)
  | [], _, _, _, _, _ => fun i hi => absurd hi (Nat.not_lt_zero _)
  | t :: ts, hw, k, mtr, hall, hd => fun i hi => by
    cases i with
    | zero => exact tree_sat t hw.1 _ hall.1 (hd 0 hi)
    | succ i =>
      have := all_sat ts hw.2 (k + 1) mtr hall.2
        (fun j hj => Nat.add_right_comm k 1 j ▸ Nat.add_assoc k j 1 ▸ hd (j + 1) (Nat.succ_lt_succ hj))
        i (Nat.lt_of_succ_lt_succ hi)
      rwa [Nat.add_right_comm, Nat.add_assoc] at this
theorem seqs_sat : (ts : List Tree) → WFs ts → ∀ σ, TrSeq ts σ → DistinctIn σ → Sat (outsSeq ts) σ
  | [], _, _, htr, _ => False.elim htr
  | [t], hw, σ, htr, hd => Sat.congr (fun x => by simp [outsSeq]) (tree_sat t hw.1 σ htr hd)
  | t :: t' :: ts, hw, σ, htr, hd => by
    obtain ⟨τ, hA, hB, rfl⟩ := htr
    have sA := tree_sat t hw.1 (pA τ) hA (distinct_pA hd)
    have sB := seqs_sat (t' :: ts) hw.2 (pB τ) hB (distinct_pB sA)
    exact seq_sat (outs t) (outsSeq (t' :: ts)) τ.length τ rfl sA sB
end

mutual
theorem trq_tr : (t : Tree) → ∀ σ, TrQ t σ → Tr t σ
  | .worker w, σ, h => by
    obtain ⟨as, s, hr, hs, _⟩ := h
    exact ⟨as, s, hr, hs⟩
  | .seq ts, σ, h => trqseq_trseq ts σ h
  | .ens ts ff, σ, h => by
    obtain ⟨as, s, hr, hs, _, _, _, hall⟩ := h
    exact ⟨as, s, hr, hs, trqall_trall ts 0 s.mtr hall⟩
  | .switch ts sel, σ, h => by
    obtain ⟨as, s, hr, hs, _, _, hall⟩ := h
    exact ⟨as, s, hr, hs, trqall_trall ts 0 s.mtr hall⟩
theorem trqall_trall : (ts : List Tree) → ∀ k mtr, TrQAll ts k mtr → TrAll ts k mtr
  | [], _, _, _ => trivial
  | t :: ts, k, mtr, h => ⟨trq_tr t _ h.1, trqall_trall ts (k + 1) mtr h.2⟩
theorem trqseq_trseq : (ts : List Tree) → ∀ σ, TrQSeq ts σ → TrSeq ts σ
  | [], _, h => False.elim h
  | [t], σ, h => trq_tr t σ h
  | t :: t' :: ts, σ, h => by
    obtain ⟨τ, hA, hB, hs⟩ := h
    exact ⟨τ, trq_tr t _ hA, trqseq_trseq (t' :: ts) _ hB, hs⟩
end

mutual
/-- **Whole-tree completeness.**  In a behaviour of the concrete tree that has come to rest, with
    distinct input uids, every request that entered has been answered (and by `tree_sat` exactly once,
    with an allowed outcome of its own input). -/
theorem tree_complete : (t : Tree) → WF t → ∀ σ, TrQ t σ → DistinctIn σ →
    ∀ u x, Ev.inp (u, x) ∈ σ → ∃ y, Ev.out (u, y) ∈ σ
  | .worker w, hw, σ, htr, hd => by
    obtain ⟨as, s, hr, rfl, hq⟩ := htr
    obtain ⟨hu, hc⟩ := WkL.lift w hw as s hr
    obtain ⟨⟨as', hr'⟩, hC⟩ := hc ⟨hd, nofun⟩
    exact hu.answered hC hq.1 ((Wk.contract w hw as' s.core hr').2 hq)
  | .seq ts, hw, σ, htr, hd => seqs_complete ts hw σ htr hd
  | .ens ts ff, hw, σ, htr, hd => by
    obtain ⟨as, s, hr, rfl, q1, q3, q4, hall⟩ := htr
    obtain ⟨hu, hc⟩ := EnsL.lift (ts.map outs) ts.length ff (List.length_map _) hw.1 as s hr
    obtain ⟨⟨as', hr'⟩, hC⟩ :=
      hc (hu.hyp_of_members hd (all_sat ts hw.2 0 s.mtr (trqall_trall ts 0 s.mtr hall)))
    have hpend : s.core.pend = [] := hu.pend_nil hC hd (all_complete ts hw.2 0 s.mtr hall)
    have hnd := nodup_recv_of_distinct hu.tr_inps hd
    exact hu.answered hC q1
      ((Ens.contract (ts.map outs) ff ((List.length_map _).symm ▸ hw.1) as' s.core hr' hnd).2 ⟨q1, hpend, q3, q4⟩)
  | .switch ts sel, hw, σ, htr, hd => by
    obtain ⟨as, s, hr, rfl, q1, q4, hall⟩ := htr
    obtain ⟨hu, hc⟩ := SwL.lift (ts.map outs) ts.length sel (List.length_map _) as s hr
    obtain ⟨⟨as', hr'⟩, hC⟩ :=
      hc (hu.hyp_of_members hd (all_sat ts hw 0 s.mtr (trqall_trall ts 0 s.mtr hall)))
    have hpend : s.core.pend = [] := hu.pend_nil hC hd (all_complete ts hw 0 s.mtr hall)
    exact hu.answered hC q1 ((Sw.contract (ts.map outs) sel as' s.core hr').2 ⟨q1, hpend, q4⟩)
theorem all_complete : (ts : List Tree) → WFs ts → ∀ (k : Nat) (mtr : List (Nat × Ev)), TrQAll ts k mtr →
    (∀ i, i < ts.length → DistinctIn (proj (k + i) mtr)) →
    ∀ i, i < ts.length → ∀ u x, Ev.inp (u, x) ∈ proj (k + i) mtr → ∃ y, Ev.out (u, y) ∈ proj (k + i) mtr
  | [], _, _, _, _, _ => fun i hi => absurd hi (Nat.not_lt_zero _)
  | t :: ts, hw, k, mtr, hall, hd => fun i hi => by
    cases i with
    | zero => exact tree_complete t hw.1 _ hall.1 (hd 0 hi)
    | succ i =>
      have := all_complete ts hw.2 (k + 1) mtr hall.2
        (fun j hj => Nat.add_right_comm k 1 j ▸ Nat.add_assoc k j 1 ▸ hd (j + 1) (Nat.succ_lt_succ hj))
        i (Nat.lt_of_succ_lt_succ hi)
      rwa [Nat.add_right_comm, Nat.add_assoc] at this
theorem seqs_complete : (ts : List Tree) → WFs ts → ∀ σ, TrQSeq ts σ → DistinctIn σ →
    ∀ u x, Ev.inp (u, x) ∈ σ → ∃ y, Ev.out (u, y) ∈ σ
  | [], _, _, htr, _ => False.elim htr
  | [t], hw, σ, htr, hd => tree_complete t hw.1 σ htr hd
  | t :: t' :: ts, hw, σ, htr, hd => by
    obtain ⟨τ, hA, hB, rfl⟩ := htr
    have hdA := distinct_pA hd
    have sA := tree_sat t hw.1 (pA τ) (trq_tr t _ hA) hdA
    intro u x h
    obtain ⟨y, hy⟩ := tree_complete t hw.1 (pA τ) hA hdA u x (inp_pA_iff.mpr h)
    obtain ⟨z, hz⟩ := seqs_complete (t' :: ts) hw.2 (pB τ) hB (distinct_pB sA) u y (out_pA_iff.mp hy)
    exact ⟨z, out_pB_iff.mp hz⟩
end

end Servlet
