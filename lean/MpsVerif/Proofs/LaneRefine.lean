import MpsVerif.Proofs.LaneInv
/-! The lane refines the atomic bounded FIFO (`Lane.Spec`): `abs s = s.q`; a `put` linearises at its `append`,
    a `get` at its `popleft`; every other step is a stutter. -/
namespace Lane

theorem canPut_iff {α : Type} (n : Nat) (q : List α) : Spec.canPut n q = true ↔ (0 < n → q.length < n) := by
  simp only [Spec.canPut, Bool.or_eq_true, beq_iff_eq, decide_eq_true_eq]
  omega

theorem canPut_false_iff {α : Type} (n : Nat) (q : List α) : Spec.canPut n q = false ↔ 0 < n ∧ n ≤ q.length := by
  rw [← Bool.not_eq_true, canPut_iff]
  omega

theorem spec_put {α : Type} (n : Nat) (q : List α) (x : α) (h : q.length < n) :
    Spec.step n q (.put x) = some (q ++ [x]) := by
  simp only [Spec.step]
  rw [if_pos ((canPut_iff n q).mpr (fun _ => h))]

theorem spec_get_none {α : Type} (n : Nat) (q : List α) : Spec.step n q .get = none ↔ q = [] := by
  cases q <;> simp [Spec.step]

theorem spec_get {α : Type} (n : Nat) (q rest : List α) (x : α) (h : q = x :: rest) :
    Spec.step n q .get = some rest := by
  simp [Spec.step, h]

theorem refine_step (c : Cfg) (h1 : c.nw = 1) (s s' : State) (a : Act) (hi : Inv c s) (hs : Step c s a s') :
    match lin c s a with
    | some b => Spec.step c.maxsize s.q b = some s'.q
    | none => s'.q = s.q := by
  cases hs with
  | actW hth hp hw =>
    have g := hi.good
    obtain ⟨w, r, hthr, _⟩ := hi
    obtain ⟨rfl, rfl⟩ := writer_lookup h1 (hthr ▸ hth) hw
    rw [th_eq hth] at g
    rw [lin, if_pos hw, th_eq hth]
    exact if_pos ((canPut_iff _ _).mpr (g.wRoom (.inl hp)))
  | actR hth hp hw hq =>
    rw [lin, if_neg (by rw [hw]; nofun), hq]
    rfl
  | actUnder hth hp hw hq =>
    rw [lin, if_neg (by rw [hw]; nofun), hq]
    exact hq
  | _ => rfl

theorem refine_run (c : Cfg) (h1 : c.nw = 1) :
    ∀ (as : List Act) (s s' : State), Inv c s → Core.run (step c) s as = some s' →
      Core.run (Spec.step c.maxsize) s.q (specTrace c s as) = some s'.q := by
  intro as
  induction as with
  | nil =>
    intro s s' _ hr
    cases hr
    rfl
  | cons a as ih =>
    intro s s' hi hr
    rw [Core.run_cons] at hr
    cases hst : step c s a with
    | none =>
      rw [hst] at hr
      cases hr
    | some s1 =>
      rw [hst] at hr
      have hS := step_sound c s s1 a hst
      have h1' := refine_step c h1 s s1 a hi hS
      have ih' := ih s1 s' (inv_step h1 hi hS) hr
      simp only [specTrace, hst]
      cases hl : lin c s a with
      | none =>
        rw [hl] at h1'
        exact h1' ▸ ih'
      | some b =>
        rw [hl] at h1'
        exact (Core.run_cons ..).trans (h1' ▸ ih')

end Lane
