import MpsVerif.Proofs.TeeCount
/-! Liveness of the `tee` model: a measure that never increases and strictly decreases on every
    step that is not a timed-lock-retry spin step; enabledness (progress). -/
namespace Tee

/-- the loop condition of the fork's current wait loop is already false (it will leave the loop) -/
def condMet (c : Cfg) (linked : Nat) (fk : Fork) : Bool :=
  match fk.cur with
  | some j => decide (j + 1 < linked) || isExc c j
  | none => true

-- The ranks fall in program order from `bCmp` (40, a box just counted) to `bIncW` (14); counting the next
-- box climbs from 14 back to 40 and is paid by the 40 of that box in `fmeasure`.  In the two retry loops the
-- head and the acquire share a rank above the loop body (33, 24) while the loop condition is unmet, so the
-- spin steps keep it.  Once it is met (for good: `rank_mono`) the head ranks just above the exit (26, between
-- `hRel` and `hNext`; 17, above `bAcq`) and the acquire just above the body (32 > `hChk`, 23 > `wChk`).
/-- position of a fork inside the processing of one box (decreases along `__next__`) -/
def rank (c : Cfg) (linked : Nat) (fk : Fork) : Nat :=
  match fk.pc with
  | .bCmp => 40 | .bGet => 39 | .bRel => 38 | .adv => 37 | .ret _ => 36 | .retExc => 36 | .idle => 35 | .chkHead => 34
  | .hLoop => if linked = 0 then 33 else 26
  | .hAcq => if linked = 0 then 33 else 32
  | .hChk => 31 | .hPull => 30 | .hPut => 29 | .hSet => 28 | .hRel => 27 | .hRelStop => 27
  | .hNext => 25
  | .wLoop => if condMet c linked fk then 17 else 24
  | .wAcq => if condMet c linked fk then 23 else 24
  | .wChk => 22 | .wPull => 21 | .wLink => 20 | .wPut => 19 | .wRel => 18
  | .bAcq => 16 | .bInc => 15 | .bIncW => 14
  | .retStop => 1 | .done => 0

def fmeasure (c : Cfg) (linked : Nat) (fk : Fork) : Nat := 40 * (c.len + 2 - fk.inc) + rank c linked fk

def sumF : Nat → (Nat → Nat) → Nat
  | 0, _ => 0
  | n + 1, a => sumF n a + a n

/-- the measure: boxes still to be counted by each fork (x40) plus its position in the step -/
def mu (c : Cfg) (s : State) : Nat := sumF c.n (fun g => fmeasure c s.linked (s.forks g))

theorem sumF_le (n : Nat) (a b : Nat → Nat) (h : ∀ g, g < n → a g ≤ b g) : sumF n a ≤ sumF n b := by
  induction n with
  | zero => simp [sumF]
  | succ n ih =>
    simp only [sumF]
    have := ih (fun g hg => h g (by omega))
    have := h n (by omega)
    omega

theorem sumF_lt {n : Nat} {a b : Nat → Nat} {d : Nat} {f : Nat} (hf : f < n) (h : ∀ g, g < n → a g ≤ b g)
    (hd : a f + d ≤ b f) : sumF n a + d ≤ sumF n b := by
  induction n with
  | zero => omega
  | succ n ih =>
    simp only [sumF]
    by_cases hfn : f = n
    · subst hfn
      have := sumF_le f a b (fun g hg => h g (by omega))
      omega
    · have := ih (by omega) (fun g hg => h g (by omega))
      have := h n (by omega)
      omega

theorem condMet_mono {c : Cfg} {l l' : Nat} {fk : Fork} (h : l ≤ l') (hm : condMet c l fk = true) :
    condMet c l' fk = true := by
  unfold condMet at *
  cases hc : fk.cur with
  | none => rfl
  | some j =>
    simp [hc] at hm ⊢
    rcases hm with h1 | h1
    · left
      omega
    · right
      exact h1

theorem rank_mono (c : Cfg) {l l' : Nat} (fk : Fork) (h : l ≤ l') : rank c l' fk ≤ rank c l fk := by
  unfold rank
  cases fk.pc
  case hLoop | hAcq =>
    dsimp only
    split <;> split <;> omega
  case wLoop | wAcq =>
    dsimp only
    by_cases hm : condMet c l fk = true
    · rw [if_pos hm, if_pos (condMet_mono h hm)]
      exact Nat.le_refl _
    · rw [if_neg hm]
      split <;> omega
  all_goals exact Nat.le_refl _

theorem mu_of_fork {c : Cfg} {s s' : State} {f d : Nat} {fk : Fork} (hf : f < c.n)
    (hfs : s'.forks = (setFork s f fk).forks) (hl : s.linked ≤ s'.linked)
    (hd : fmeasure c s'.linked fk + d ≤ fmeasure c s.linked (s.forks f)) : mu c s' + d ≤ mu c s := by
  unfold mu
  refine sumF_lt hf (fun g _ => ?_) ?_
  · show fmeasure c s'.linked (s'.forks g) ≤ fmeasure c s.linked (s.forks g)
    rw [hfs]
    by_cases hgf : g = f
    · rw [hgf, setFork_same]
      omega
    · rw [setFork_ne _ _ hgf]
      unfold fmeasure
      have := rank_mono c (s.forks g) hl
      omega
  · show fmeasure c s'.linked (s'.forks f) + d ≤ _
    rw [hfs, setFork_same]
    exact hd

theorem mu_move {c : Cfg} {s s' : State} {f d : Nat} {fk : Fork} {p : Pc} (hf : f < c.n)
    (hp : (s.forks f).pc = p) (hfs : s'.forks = (setFork s f fk).forks)
    (hr : rank c s'.linked fk + d ≤ rank c s.linked { s.forks f with pc := p })
    (hl : s.linked ≤ s'.linked := by exact Nat.le_refl _)
    (hinc : fk.inc = (s.forks f).inc := by rfl) : mu c s' + d ≤ mu c s := by
  refine mu_of_fork hf hfs hl ?_
  subst hp
  have hr : rank c s'.linked fk + d ≤ rank c s.linked (s.forks f) := hr
  unfold fmeasure
  rw [hinc]
  omega

theorem add_ite_le {m m' : Nat} {b : Bool} (h : m' + 1 ≤ m) : m' + (if b = true then 0 else 1) ≤ m := by
  split <;> omega

theorem mu_dec {c : Cfg} {s s' : State} {f : Nat} {fk : Fork} {p : Pc} {b : Bool} (hf : f < c.n)
    (hp : (s.forks f).pc = p) (hfs : s'.forks = (setFork s f fk).forks)
    (hr : rank c s'.linked fk + 1 ≤ rank c s.linked { s.forks f with pc := p })
    (hl : s.linked ≤ s'.linked := by exact Nat.le_refl _)
    (hinc : fk.inc = (s.forks f).inc := by rfl) : mu c s' + (if b = true then 0 else 1) ≤ mu c s :=
  add_ite_le (mu_move hf hp hfs hr hl hinc)

theorem isSpin_hLoop {c : Cfg} {s : State} {f : Nat} (hp : (s.forks f).pc = .hLoop) :
    isSpin c s ⟨f, .hget⟩ = (s.linked == 0) := by
  simp only [isSpin, hp]

theorem isSpin_hAcq {c : Cfg} {s : State} {f : Nat} (hp : (s.forks f).pc = .hAcq) :
    isSpin c s ⟨f, .acqFail⟩ = (s.linked == 0) := by
  simp only [isSpin, hp]

theorem isSpin_wLoop {c : Cfg} {s : State} {f : Nat} (hp : (s.forks f).pc = .wLoop) :
    isSpin c s ⟨f, .nget⟩ = !condMet c s.linked (s.forks f) := by
  simp only [isSpin, hp, condMet]
  cases (s.forks f).cur
  · rfl
  · exact (Bool.not_or _ _).symm

theorem isSpin_wAcq {c : Cfg} {s : State} {f : Nat} (hp : (s.forks f).pc = .wAcq) :
    isSpin c s ⟨f, .acqFail⟩ = !condMet c s.linked (s.forks f) := by
  simp only [isSpin, hp, condMet]
  cases (s.forks f).cur
  · rfl
  · exact (Bool.not_or _ _).symm

/-- Every step lowers the measure, except the spin steps, which keep it: compare `rank` at the
    two program points the step connects. -/
theorem mu_step {c : Cfg} {s : State} {a : Act} {s' : State} (hi : Inv c s) (hs : Step c s a s') :
    mu c s' + (if isSpin c s a = true then 0 else 1) ≤ mu c s := by
  obtain ⟨f, k⟩ := a
  have hf := hs.lt
  cases hs
  case hgetLoop _ hp =>
    rw [isSpin_hLoop hp]
    refine mu_move hf hp rfl ?_
    show rank c s.linked { s.forks f with pc := if s.linked = 0 then .hAcq else .hNext } +
      (if (s.linked == 0) = true then 0 else 1) ≤ rank c s.linked { s.forks f with pc := .hLoop }
    generalize s.linked = l
    cases l
    · exact Nat.le_refl 33
    · exact Nat.le_refl 26
  case acqFailH _ _ hp =>
    rw [isSpin_hAcq hp]
    refine mu_move hf hp rfl ?_
    show rank c s.linked { s.forks f with pc := .hLoop } + (if (s.linked == 0) = true then 0 else 1) ≤
      rank c s.linked { s.forks f with pc := .hAcq }
    generalize s.linked = l
    cases l
    · exact Nat.le_refl 33
    · exact Nat.le_of_ble_eq_true rfl
  case acqFailW _ _ hp =>
    rw [isSpin_wAcq hp]
    refine mu_move hf hp rfl ?_
    show (if condMet c s.linked (s.forks f) = true then 17 else 24) +
      (if (!condMet c s.linked (s.forks f)) = true then 0 else 1) ≤
      if condMet c s.linked (s.forks f) = true then 23 else 24
    generalize condMet c s.linked (s.forks f) = m
    cases m
    · exact Nat.le_refl 24
    · exact Nat.le_of_ble_eq_true rfl
  case ngetLoop j _ hc hp =>
    rw [isSpin_wLoop hp]
    have hm : condMet c s.linked (s.forks f) = (decide (j + 1 < s.linked) || isExc c j) := by
      simp only [condMet, hc]
    refine mu_move hf hp rfl ?_
    show rank c s.linked { s.forks f with
        pc := (if j + 1 < s.linked then .bAcq else if isExc c j = true then .bAcq else .wAcq) } +
      (if (!condMet c s.linked (s.forks f)) = true then 0 else 1) ≤
      if condMet c s.linked (s.forks f) = true then 17 else 24
    rw [hm]
    by_cases h1 : j + 1 < s.linked
    · rw [if_pos h1, decide_eq_true h1]
      exact Nat.le_refl 17
    · rw [if_neg h1, decide_eq_false h1]
      cases isExc c j
      · rw [if_neg Bool.false_ne_true]
        show (if _ then 23 else 24) + 0 ≤ 24
        split <;> omega
      · exact Nat.le_refl 17
  case call _ hp =>
    split
    · exact mu_dec hf hp rfl (Nat.le_refl 35)
    · refine mu_dec hf hp rfl ?_
      show (if _ then 17 else 24) + 1 ≤ 35
      split <;> omega
  case hgetChk _ hp =>
    split
    next h0 =>
      refine mu_dec hf hp rfl ?_
      show (if s.linked = 0 then 33 else 26) + 1 ≤ 34
      rw [if_pos h0]
      exact Nat.le_refl 34
    next =>
      split <;> exact mu_dec hf hp rfl (Nat.le_of_ble_eq_true rfl)
  case hgetNext _ hp =>
    refine mu_dec hf hp rfl ?_
    show (if _ then 17 else 24) + 1 ≤ 25
    split <;> omega
  case acqOkH _ hp =>
    refine mu_dec hf hp rfl ?_
    show 31 + 1 ≤ if s.linked = 0 then 33 else 32
    split <;> omega
  case acqOkW _ hp =>
    refine mu_dec hf hp rfl ?_
    show 22 + 1 ≤ if _ then 23 else 24
    split <;> omega
  case hset _ hp =>
    have h0 : s.linked = 0 := (hi.at hf hp).2.2.2.1
    exact mu_dec hf hp rfl (Nat.le_refl 28) (by rw [h0]; exact Nat.zero_le 1)
  case relH _ _ hp =>
    have hpos : 0 < s.linked := (hi.at hf hp).2.2.2
    refine mu_dec hf hp rfl ?_
    show (if s.linked = 0 then 33 else 26) + 1 ≤ 27
    rw [if_neg (Nat.ne_of_gt hpos)]
    exact Nat.le_refl 27
  case nset j _ hc hp =>
    obtain ⟨hab, -, -, -, -, h1⟩ := hi.at hf hp
    have hle : s.linked ≤ j + 2 := by
      have := Option.some.inj (hc.symm.trans hab.1)
      omega
    exact mu_dec hf hp rfl (Nat.le_refl 20) hle
  case inc j _ _ hp =>
    have hlt := (hi.at hf hp).1.2.2
    have := hi.linked_le
    have hr : rank c s.linked (s.forks f) = 14 := by
      unfold rank
      rw [hp]
    refine add_ite_le (mu_of_fork hf rfl (Nat.le_refl _) ?_)
    show 40 * (c.len + 2 - ((s.forks f).inc + 1)) + 40 + 1 ≤
      40 * (c.len + 2 - (s.forks f).inc) + rank c s.linked (s.forks f)
    omega
  case hgetLocked | ngetChk | ngetAdv | cmp =>
    rename_i hp
    split <;> exact mu_dec hf hp rfl (Nat.le_of_ble_eq_true rfl)
  all_goals
    rename_i hp
    exact mu_dec hf hp rfl (Nat.le_of_ble_eq_true rfl)

theorem pull_ok {c : Cfg} {s : State} (hi : Inv c s) {f : Nat} (hf : f < c.n)
    (hp : (s.forks f).pc = .hPull ∨ (s.forks f).pc = .wPull) : s.lock = some f ∧ s.raised = false := by
  rcases hp with hp | hp
  · obtain ⟨-, hl, hq, h0⟩ := hi.at hf hp
    refine ⟨hl, ?_⟩
    cases hra : s.raised
    · rfl
    · have := hi.boxes_of_raised hra
      omega
  · obtain ⟨-, hne, hl, hq, h1⟩ := hi.at hf hp
    refine ⟨hl, ?_⟩
    cases hra : s.raised
    · rfl
    · have := hi.boxes_of_raised hra
      have := (hi.raised_imp hra).2
      omega

def Advances (c : Cfg) (s : State) : Prop :=
  ∃ as s', as ≠ [] ∧ as.length ≤ 2 ∧ Core.run (step c) s as = some s' ∧ mu c s' < mu c s

/-- how a state advances: a productive step, or a spin step of a fork after which that same fork
    has a productive step -/
inductive Moves (c : Cfg) (s : State) : Prop where
  | one {a s1} : Step c s a s1 → isSpin c s a = false → Moves c s
  | two {g k s1 k' s2} : Step c s ⟨g, k⟩ s1 → isSpin c s ⟨g, k⟩ = true →
      Step c s1 ⟨g, k'⟩ s2 → isSpin c s1 ⟨g, k'⟩ = false → Moves c s

theorem Moves.advances {c : Cfg} {s : State} (hi : Inv c s) (h : Moves c s) : Advances c s := by
  rcases h with @⟨a, s1, h, hns⟩ | @⟨g, k, s1, k', s2, h, -, h', hns⟩
  · refine ⟨[a], s1, List.cons_ne_nil _ _, Nat.le_succ 1, ?_, ?_⟩
    · rw [Core.run_cons, step_complete h]
      rfl
    · have := mu_step hi h
      rw [hns] at this
      exact this
  · refine ⟨[⟨g, k⟩, ⟨g, k'⟩], s2, List.cons_ne_nil _ _, Nat.le_refl 2, ?_, ?_⟩
    · rw [Core.run_cons, step_complete h]
      show Core.run (step c) s1 [⟨g, k'⟩] = some s2
      rw [Core.run_cons, step_complete h']
      rfl
    · have h1 := mu_step hi h
      have h2 := mu_step (inv_step hi h) h'
      rw [hns] at h2
      exact Nat.lt_of_lt_of_le h2 (Nat.le_trans (Nat.le_add_right _ _) h1)

/-- the fork's wait-loop condition (if it is in one) is already met -/
def MetOf (c : Cfg) (s : State) (fk : Fork) : Prop :=
  ((fk.pc = .hLoop ∨ fk.pc = .hAcq) → s.linked ≠ 0) ∧
  ((fk.pc = .wLoop ∨ fk.pc = .wAcq) → condMet c s.linked fk = true)

/-- A fork that is not at a blocking point advances; in a wait loop whose condition is unmet, while
    the lock is free, by the re-read of the condition followed by the acquire. -/
theorem fork_advances {c : Cfg} {s : State} (hi : Inv c s) (h2 : Inv2 c s) (hbs : 1 ≤ c.bs) {f : Nat}
    (hf : f < c.n) (hnd : (s.forks f).pc ≠ .done)
    (hsp : s.lock = none ∨ MetOf c s (s.forks f))
    (hput : (s.forks f).pc = .wPut → s.put < s.popped + c.bs)
    (hbox : (s.forks f).pc = .bAcq → ∀ j, (s.forks f).cur = some j → boxFree c s f j = true) :
    Moves c s := by
  have hpull : ((s.forks f).pc = .hPull ∨ (s.forks f).pc = .wPull) →
      (s.pulled < c.len ∧ s.raised = false) ∨ (s.pulled = c.len ∧ c.fail = false) ∨
      (s.pulled = c.len ∧ c.fail = true ∧ s.raised = false) := by
    intro hp
    have hnr := (pull_ok hi hf hp).2
    have := hi.pulled_le
    by_cases hlt : s.pulled < c.len
    · exact .inl ⟨hlt, hnr⟩
    · cases hfl : c.fail
      · exact .inr (.inl ⟨by omega, rfl⟩)
      · exact .inr (.inr ⟨by omega, rfl, hnr⟩)
  cases hpc : (s.forks f).pc
  case done => exact absurd hpc hnd
  case idle => exact .one (.call hf hpc) rfl
  case chkHead => exact .one (.hgetChk hf hpc) (by simp only [isSpin, hpc])
  case hLoop =>
    by_cases hl0 : s.linked = 0
    · rcases hsp with hlk | hm
      · exact .two (.hgetLoop hf hpc) (by rw [isSpin_hLoop hpc, hl0]; rfl)
          (.acqOkH hf hlk (by rw [setFork_same]; exact if_pos hl0)) rfl
      · exact absurd hl0 (hm.1 (.inl hpc))
    · exact .one (.hgetLoop hf hpc) (by rw [isSpin_hLoop hpc]; exact beq_false_of_ne hl0)
  case hAcq =>
    cases hlk : s.lock with
    | none => exact .one (.acqOkH hf hlk hpc) rfl
    | some h =>
      have hl0 : s.linked ≠ 0 := by
        rcases hsp with h' | hm
        · rw [hlk] at h'
          cases h'
        · exact hm.1 (.inr hpc)
      exact .one (.acqFailH hf (by rw [hlk]; rfl) hpc) (by rw [isSpin_hAcq hpc]; exact beq_false_of_ne hl0)
  case hChk => exact .one (.hgetLocked hf hpc) (by simp only [isSpin, hpc])
  case hPull =>
    rcases hpull (.inl hpc) with ⟨h1, h2⟩ | ⟨h1, h2⟩ | ⟨h1, h2, h3⟩
    · exact .one (.pullH hf h1 h2 hpc) rfl
    · exact .one (.srcEndH hf h1 h2 hpc) rfl
    · exact .one (.srcExcH hf h1 h2 h3 hpc) rfl
  case hPut =>
    obtain ⟨-, -, -, -, hp0⟩ := hi.at hf hpc
    have := hi.win
    exact .one (.putH hf (by omega) hpc) rfl
  case hSet => exact .one (.hset hf hpc) rfl
  case hRel => exact .one (.relH hf (hi.at hf hpc).2.1 hpc) rfl
  case hRelStop => exact .one (.relStop hf (hi.at hf hpc).2.1 hpc) rfl
  case hNext => exact .one (.hgetNext hf (hi.at hf hpc).2 hpc) (by simp only [isSpin, hpc])
  case wLoop =>
    have hc := (hi.at hf hpc).1
    cases hm : condMet c s.linked (s.forks f)
    · rcases hsp with hlk | hmm
      · have hm' : ¬ ((s.forks f).inc + 1 < s.linked) ∧ ¬ isExc c (s.forks f).inc = true := by
          simp only [condMet, hc, Bool.or_eq_false_iff, decide_eq_false_iff_not] at hm
          exact ⟨hm.1, by rw [hm.2]; exact Bool.false_ne_true⟩
        refine .two (.ngetLoop hf hc hpc) (by rw [isSpin_wLoop hpc, hm]; rfl) (.acqOkW hf hlk ?_) rfl
        rw [setFork_same]
        exact (if_neg hm'.1).trans (if_neg hm'.2)
      · exact absurd (hmm.2 (.inl hpc)) (by rw [hm]; exact Bool.false_ne_true)
    · exact .one (.ngetLoop hf hc hpc) (by rw [isSpin_wLoop hpc, hm]; rfl)
  case wAcq =>
    cases hlk : s.lock with
    | none => exact .one (.acqOkW hf hlk hpc) rfl
    | some h =>
      have hm : condMet c s.linked (s.forks f) = true := by
        rcases hsp with h' | hm
        · rw [hlk] at h'
          cases h'
        · exact hm.2 (.inr hpc)
      exact .one (.acqFailW hf (by rw [hlk]; rfl) hpc) (by rw [isSpin_wAcq hpc, hm]; rfl)
  case wChk => exact .one (.ngetChk hf (hi.at hf hpc).1.1 hpc) (by simp only [isSpin, hpc])
  case wPull =>
    rcases hpull (.inr hpc) with ⟨h1, h2⟩ | ⟨h1, h2⟩ | ⟨h1, h2, h3⟩
    · exact .one (.pullW hf h1 h2 hpc) rfl
    · exact .one (.srcEndW hf h1 h2 hpc) rfl
    · exact .one (.srcExcW hf h1 h2 h3 hpc) rfl
  case wLink => exact .one (.nset hf (hi.at hf hpc).1.1 hpc) rfl
  case wPut => exact .one (.putW hf (hput hpc) hpc) rfl
  case wRel => exact .one (.relW hf (hi.at hf hpc).2.2.1 hpc) rfl
  case bAcq =>
    have hc := (hi.at hf hpc).1.1
    exact .one (.bacq hf hc (hbox hpc _ hc) hpc) rfl
  case bInc => exact .one (.incRead hf (hi.at hf hpc).1.1 hpc) rfl
  case bIncW => exact .one (.inc hf (hi.at hf hpc).1.1 hpc) rfl
  case bCmp => exact .one (.cmp hf (hi.at hf hpc).1.1 hpc) rfl
  case bGet => exact .one (.get hf (get_own hi h2 hf hpc).2.2 hpc) rfl
  case bRel => exact .one (.brel hf hpc) rfl
  case adv => exact .one (.ngetAdv hf (hi.at hf hpc).1.1 hpc) (by simp only [isSpin, hpc])
  case ret j => exact .one (.recv hf hpc) rfl
  case retExc => exact .one (.exc hf hpc) rfl
  case retStop => exact .one (.stop hf hpc) rfl

/-- a fork in a class `q` of program points that has none of the points where a fork may wait -/
theorem class_advances {c : Cfg} {s : State} (hi : Inv c s) (h2 : Inv2 c s) (hbs : 1 ≤ c.bs) {g : Nat}
    (hg : g < c.n) (q : Pc → Bool) (hq : q (s.forks g).pc = true)
    (hq0 : q .done = false ∧ q .hLoop = false ∧ q .hAcq = false ∧ q .wLoop = false ∧ q .wAcq = false ∧
      q .bAcq = false)
    (hput : (s.forks g).pc = .wPut → s.put < s.popped + c.bs) : Moves c s := by
  have hne : ∀ p : Pc, q p = false → (s.forks g).pc ≠ p := by
    intro p hp e
    rw [e, hp] at hq
    cases hq
  obtain ⟨q1, q2, q3, q4, q5, q6⟩ := hq0
  exact fork_advances hi h2 hbs hg (hne _ q1)
    (.inr ⟨fun e => (e.elim (hne _ q2) (hne _ q3)).elim, fun e => (e.elim (hne _ q4) (hne _ q5)).elim⟩)
    hput fun e => (hne _ q6 e).elim

theorem holder_of_not_free {c : Cfg} {s : State} {f j : Nat} (h : ¬ boxFree c s f j = true) :
    ∃ g, g < c.n ∧ g ≠ f ∧ holdsBox (s.forks g) j = true := by
  simp only [boxFree, List.all_eq_true, List.mem_range] at h
  apply Classical.byContradiction
  intro hne
  apply h
  intro g hg
  by_cases hgf : g = f
  · simp [hgf]
  · cases hh : holdsBox (s.forks g) j
    · simp
    · exact absurd ⟨g, hg, hgf, hh⟩ hne

theorem unblocked_advances {c : Cfg} {s : State} (hi : Inv c s) (h2 : Inv2 c s) (hbs : 1 ≤ c.bs) {f : Nat}
    (hf : f < c.n) (hnd : (s.forks f).pc ≠ .done) (hsp : s.lock = none ∨ MetOf c s (s.forks f))
    (hput : (s.forks f).pc = .wPut → s.put < s.popped + c.bs) : Moves c s := by
  by_cases hb : (s.forks f).pc = .bAcq ∧ ∃ j, (s.forks f).cur = some j ∧ ¬ boxFree c s f j = true
  · obtain ⟨_, j, _, hnf⟩ := hb
    obtain ⟨g, hg, _, hh⟩ := holder_of_not_free hnf
    -- a fork waiting for a box lock is unblocked by its holder: inside `with box.lock:` nothing blocks
    have hin : (s.forks g).pc.inBox = true := by
      rw [holdsBox_eq] at hh
      exact (Bool.and_eq_true_iff.mp hh).2
    exact class_advances hi h2 hbs hg Pc.inBox hin ⟨rfl, rfl, rfl, rfl, rfl, rfl⟩ fun e => nomatch e ▸ hin
  · refine fork_advances hi h2 hbs hf hnd hsp hput ?_
    intro hp j hc
    apply Classical.byContradiction
    intro hnf
    exact hb ⟨hp, j, hc, hnf⟩

theorem moves {c : Cfg} {s : State} (hi : Inv c s) (h2 : Inv2 c s) (hbs : 2 ≤ c.bs) (hnf : ¬ Final c s) :
    Moves c s := by
  have hbs1 : 1 ≤ c.bs := by omega
  cases hlk : s.lock with
  | none =>
    obtain ⟨f, hf'⟩ := Classical.not_forall.mp hnf
    obtain ⟨hf, hnd⟩ := Classical.not_imp.mp hf'
    refine unblocked_advances hi h2 hbs1 hf hnd (.inl hlk) fun hp => ?_
    have := (hi.at hf hp).2.2.1
    rw [hlk] at this
    cases this
  | some h =>
    obtain ⟨hh, hlocked⟩ := hi.lock_lt h hlk
    by_cases hfull : (s.forks h).pc = .wPut ∧ ¬ (s.put < s.popped + c.bs)
    · -- the holder waits for room in the full window: some fork still has to count the oldest box
      obtain ⟨hpw, hnw⟩ := hfull
      obtain ⟨-, -, -, hb, hp1, hl2⟩ := hi.at hh hpw
      by_cases hlag : ∃ g, g < c.n ∧ (s.forks g).inc ≤ s.popped
      · obtain ⟨g, hg, hgl⟩ := hlag
        have hgo := (hi.ok hg).2.2
        have hnl : (s.forks g).pc.locked = false := by
          cases hl : (s.forks g).pc.locked
          · rfl
          · have := (hi.forks g hg).locked_own hl
            rw [hlk] at this
            obtain rfl := Option.some.inj this
            omega
        have hlen := hi.linked_le
        refine unblocked_advances hi h2 hbs1 hg (fun hd => ?_) (.inr ⟨fun _ => by omega, fun hp => ?_⟩)
          fun hp => ?_
        · rw [hd] at hgo
          rcases hgo with ⟨-, hec, -⟩ | ⟨-, -, -, -, hinc⟩
          · have := hec.2.1
            omega
          · omega
        · have hc : (s.forks g).cur = some (s.forks g).inc := by
            rcases hp with hp | hp
            · rw [hp] at hgo
              exact hgo.1
            · rw [hp] at hgo
              exact hgo.1.1
          simp only [condMet, hc, Bool.or_eq_true, decide_eq_true_eq]
          exact .inl (by omega)
        · rw [hp] at hnl
          cases hnl
      · have hall : ∀ g, g < c.n → s.popped < (s.forks g).inc := fun g hg =>
          Nat.lt_of_not_le fun hn => hlag ⟨g, hg, hn⟩
        rcases h2.full_pop s.popped hall with hlt | ⟨g, hg, hpg, -⟩
        · have := hi.win.1
          omega
        · have hin : (s.forks g).pc.inBox = true := by
            rcases hpg with e | e
            all_goals
              rw [e]
              rfl
          exact class_advances hi h2 hbs1 hg Pc.inBox hin ⟨rfl, rfl, rfl, rfl, rfl, rfl⟩
            fun e => nomatch e ▸ hin
    · exact class_advances hi h2 hbs1 hh Pc.locked hlocked ⟨rfl, rfl, rfl, rfl, rfl, rfl⟩
        fun hp => Classical.byContradiction fun hn => hfull ⟨hp, hn⟩

/-- Progress: one productive step, or a re-check of the loop condition followed by a successful
    lock acquisition. -/
theorem progress (c : Cfg) (s : State) (hi : Inv c s) (h2 : Inv2 c s) (hbs : 2 ≤ c.bs) (hnf : ¬ Final c s) :
    Advances c s :=
  (moves hi h2 hbs hnf).advances hi

/-- number of steps of a run that are not timed-lock-retry spin steps -/
def work (c : Cfg) : State → List Act → Nat
  | _, [] => 0
  | s, a :: as =>
    match step c s a with
    | some s' => (if isSpin c s a = true then 0 else 1) + work c s' as
    | none => 0

theorem work_le (c : Cfg) : ∀ (as : List Act) (s s' : State), Inv c s → Core.run (step c) s as = some s' →
    work c s as + mu c s' ≤ mu c s := by
  intro as
  induction as with
  | nil =>
    intro s s' _ hr
    cases hr
    exact Nat.le_of_eq (Nat.zero_add _)
  | cons a as ih =>
    intro s s' hi hr
    rw [Core.run_cons] at hr
    cases hst : step c s a with
    | none =>
      rw [hst] at hr
      cases hr
    | some s1 =>
      rw [hst] at hr
      have hs := step_sound c s s1 a hst
      have := ih s1 s' (inv_step hi hs) hr
      have := mu_step hi hs
      simp only [work, hst]
      omega

theorem sumF_const (n k : Nat) : sumF n (fun _ => k) = n * k := by
  induction n with
  | zero => simp [sumF]
  | succ n ih => simp [sumF, ih, Nat.succ_mul]

theorem mu_init (c : Cfg) : mu c init = c.n * (40 * (c.len + 2) + 35) := by
  simp [mu, init, fmeasure, rank, fork0, sumF_const]

theorem inv12_run {c : Cfg} {as : List Act} {s s' : State} (h : Inv c s ∧ Inv2 c s)
    (hr : Core.run (step c) s as = some s') : Inv c s' ∧ Inv2 c s' :=
  Core.invariant_run (Inv := fun s => Inv c s ∧ Inv2 c s)
    (fun s a s' h hs => ⟨inv_step h.1 (step_sound c s s' a hs),
      inv2_step h.1 h.2 (step_sound c s s' a hs)⟩) as s s' h hr

theorem can_finish (c : Cfg) (hbs : 2 ≤ c.bs) : ∀ (m : Nat) (s : State), Inv c s → Inv2 c s → mu c s < m →
    ∃ as s', Core.run (step c) s as = some s' ∧ Final c s' := by
  intro m
  induction m with
  | zero => exact fun _ _ _ hm => absurd hm (Nat.not_lt_zero _)
  | succ m ih =>
    intro s hi h2 hm
    by_cases hf : Final c s
    · exact ⟨[], s, rfl, hf⟩
    · obtain ⟨as1, s1, _, _, hr1, hlt⟩ := progress c s hi h2 hbs hf
      have h12 := inv12_run ⟨hi, h2⟩ hr1
      obtain ⟨as2, s2, hr2, hfin⟩ := ih s1 h12.1 h12.2 (by omega)
      refine ⟨as1 ++ as2, s2, ?_, hfin⟩
      rw [Core.run_append, hr1]
      exact hr2

end Tee
