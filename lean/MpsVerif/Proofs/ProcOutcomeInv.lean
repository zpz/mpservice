import MpsVerif.Model.ProcOutcome
/-!
Inductive invariant of the `ProcOutcome` model, in three layers: `Child` (how many messages are out and
how the child ended, by its program counter and the kill history), `Coll` (what the collector's locals
hold, by *its* program counter), `Answered` (every recorded accessor answer is the table's).  `Coll`
reads the child's side only in ways that a step of a live child cannot spoil: `sent` grows, the pipe
grows at its tail, and once the child is gone nothing of it changes.
-/
namespace ProcOutcome

theorem sentTotal_le (o : Outcome) : sentTotal o ≤ 2 := by
  cases o <;> simp [sentTotal]

theorem canSend1_iff {o : Outcome} : canSend1 o = true ↔ sentTotal o ≠ 0 := by
  cases o <;> simp [canSend1, sentTotal]

theorem canSend2_iff {o : Outcome} : canSend2 o = true ↔ sentTotal o ≠ 1 := by
  cases o <;> simp [canSend2, sentTotal]

theorem resolveWith_none (r : Obj) : resolveWith r .none = .ok r := rfl

theorem resolveWith_exc (r : Obj) (e : Err) : resolveWith r (.exc e) = .err (.exc e) := rfl

/-- an outcome that cannot be pickled: the child ends by itself with status 1, which the collector
    reads as "signal -1" -/
theorem own_short {o : Outcome} (h : sentTotal o < 2) :
    ownFut o = .err (.exc (.osErr (-1))) ∧ osStatus (mpExit o) = 1 := by
  cases o with
  | retU v | raiseU e => exact ⟨rfl, rfl⟩
  | ret v | raise e | exit x => exact absurd h (Nat.lt_irrefl 2)

theorem own_full {o : Outcome} (h : sentTotal o = 2) :
    ownFut o = resolveWith (firstMsg o) (secondMsg o) :=
  if_neg (by omega)

theorem own_eq_threadFut {o : Outcome} (h : sentTotal o = 2) : ownFut o = Thr.threadFut o := by
  rw [own_full h]
  cases o with
  | exit x => cases hx : x.clean <;> simp [Thr.threadFut, firstMsg, secondMsg, hx, resolveWith]
  | retU v => exact absurd h (by simp [sentTotal])
  | raiseU e => exact absurd h (by simp [sentTotal])
  | _ => rfl

/-- the kill did not interfere: none, or after both messages were sent -/
def Undisturbed : Option (Nat × Phase) → Prop
  | none => True
  | some (_, ph) => ph = .after

theorem verdict_undisturbed (o : Outcome) {k : Option (Nat × Phase)} (h : Undisturbed k) :
    verdict o k = ownFut o := by
  match k, h with
  | none, _ => rfl
  | some (_, .after), _ => rfl

theorem finalAns_eq {o : Outcome} {k : Option (Nat × Phase)} {f : Fut} (h : verdict o k = f)
    (a : Acc) : finalAns o k a = ansOfFut a f (some (finalCode o k)) := by
  rw [finalAns, h]

/-- messages out while the child is in a given phase -/
def sentBy : Phase → Nat
  | .before | .during => 0
  | .between => 1
  | .after => 2

/-- killed before both messages were out: `terminate()` (signal 15) is no error, any other signal is -/
theorem verdict_killed (o : Outcome) (sig : Nat) {ph : Phase} (h : ph ≠ .after) :
    verdict o (some (sig, ph)) =
      if (sig : Int) = 15 then .ok (if ph = .between then firstMsg o else .none)
      else .err (.exc (.osErr sig)) := by
  cases ph with
  | after => exact absurd rfl h
  | _ => rfl

/-- messages out once the child is gone: all it can send, unless a signal cut it short -/
def sentEnd (o : Outcome) : Option (Nat × Phase) → Nat
  | none => sentTotal o
  | some (_, ph) => sentBy ph

/-- what `recv` has put into `result` when `n` messages were sent and the pipe is drained -/
def heldResult (o : Outcome) (n : Nat) : Obj := if n = 0 then .none else firstMsg o

/-- The child went before both messages were out: the verdict as the collector computes it from
    the exit status `x` (`-x` taken for a signal number) and the `result` it holds. -/
theorem verdict_short {o : Outcome} {k : Option (Nat × Phase)} (h : sentEnd o k < 2) :
    verdict o k =
      if -finalCode o k = 15 then .ok (heldResult o (sentEnd o k))
      else .err (.exc (.osErr (-finalCode o k))) := by
  match k with
  | none =>
    obtain ⟨h1, h2⟩ := own_short h
    simp only [verdict, finalCode, h1, h2]
    rfl
  | some (sig, ph) =>
    simp only [finalCode, Int.neg_neg]
    cases ph with
    | after => exact absurd h (Nat.lt_irrefl 2)
    | _ => rfl

theorem verdict_full {o : Outcome} {k : Option (Nat × Phase)} (h : 2 ≤ sentEnd o k)
    (hb : sentEnd o k ≤ sentTotal o) : verdict o k = resolveWith (firstMsg o) (secondMsg o) := by
  have ht : sentTotal o = 2 := by
    have := sentTotal_le o
    omega
  match k with
  | none | some (_, .after) => exact own_full ht
  | some (_, .before) | some (_, .during) => exact absurd h (by decide : ¬ 2 ≤ 0)
  | some (_, .between) => exact absurd h (by decide : ¬ 2 ≤ 1)

variable {o : Outcome} {s : State}

structure Child (o : Outcome) (s : State) : Prop where
  running : s.cpc ≠ .exited →
    s.killed = none ∧ s.exitcode = none ∧ s.wclosed = false ∧ s.sent = sentBy s.cpc.phase
  exited : s.cpc = .exited →
    s.wclosed = true ∧ s.exitcode = some (finalCode o s.killed) ∧ s.sent = sentEnd o s.killed
  bound : s.sent ≤ sentTotal o

theorem Child.of_pc (h : Child o s) {pc : CPc} (hg : s.cpc = pc) (hpc : pc ≠ .exited) :
    s.cpc ≠ .exited ∧ s.killed = none ∧ s.sent = sentBy pc.phase := by
  subst hg
  exact ⟨hpc, (h.running hpc).1, (h.running hpc).2.2.2⟩

theorem Child.frame (h : Child o s) {p k r e t l ls f a} :
    Child o { s with pipe := p, kpc := k, result := r, error := e, terminated := t, logEnd := l,
                     logStopped := ls, fut := f, answers := a } :=
  ⟨h.running, h.exited, h.bound⟩

theorem Child.advance (h : Child o s) (hne : s.cpc ≠ .exited) {pc : CPc} {n : Nat} {p : List Obj}
    (hpc : pc ≠ .exited) (hn : n = sentBy pc.phase) (hb : n ≤ sentTotal o) :
    Child o { s with cpc := pc, sent := n, pipe := p } :=
  have ⟨hk, he, hw, _⟩ := h.running hne
  ⟨fun _ => ⟨hk, he, hw, hn⟩, fun hx => absurd hx hpc, hb⟩

theorem Child.exit (h : Child o s) {x : Int} {k : Option (Nat × Phase)} (hx : x = finalCode o k)
    (hs : s.sent = sentEnd o k) :
    Child o { s with cpc := .exited, wclosed := true, exitcode := some x, killed := k } :=
  ⟨fun hne => absurd rfl hne, fun _ => ⟨rfl, congrArg some hx, hs⟩, h.bound⟩

def allMsgs (o : Outcome) : List Obj := [firstMsg o, secondMsg o]

theorem take_eq_nil {a b : Obj} {n : Nat} (h : [a, b].take n = []) : n = 0 := by
  match n with
  | 0 => rfl
  | n + 1 => cases h

theorem take_eq_one {a b x : Obj} {n : Nat} (h : [a, b].take n = [x]) : n = 1 ∧ x = a := by
  match n with
  | 0 => cases h
  | 1 =>
    cases h
    exact ⟨rfl, rfl⟩
  | n + 2 => cases h

theorem take_eq_two {a b x y : Obj} {l : List Obj} {n : Nat} (h : [a, b].take n = x :: y :: l) :
    2 ≤ n ∧ x = a ∧ y = b := by
  match n with
  | 0 => cases h
  | 1 => cases h
  | n + 2 =>
    cases h
    exact ⟨Nat.le_add_left 2 n, rfl, rfl⟩

/-- The collector is past its two `recv` calls: either it got both messages, or it saw the pipe
    end, the child is gone and the two locals already hold the verdict. -/
def Received (o : Outcome) (s : State) : Prop :=
  (s.terminated = false ∧ 2 ≤ s.sent ∧ s.result = firstMsg o ∧ s.error = secondMsg o) ∨
  (s.terminated = true ∧ s.cpc = .exited ∧ resolveWith s.result s.error = verdict o s.killed)

def collAt (o : Outcome) (s : State) : KPc → Prop
  | .recv1 => (allMsgs o).take s.sent = s.pipe ∧ s.result = .none ∧ s.error = .none ∧
      s.terminated = false
  | .recv2 => (allMsgs o).take s.sent = s.result :: s.pipe ∧ s.error = .none ∧ s.terminated = false
  | .eof => s.cpc = .exited ∧ s.sent < 2 ∧ s.result = heldResult o s.sent ∧ s.error = .none ∧
      s.terminated = true
  | .waitExit => Received o s
  | .endLog => Received o s ∧ s.cpc = .exited
  | .joinLog | .resolve | .done => Received o s ∧ s.cpc = .exited ∧ s.logEnd = true

structure Coll (o : Outcome) (s : State) : Prop where
  pc : collAt o s s.kpc
  fut : s.fut = if s.kpc = .done then some (resolveWith s.result s.error) else none

theorem Coll.of_pc (h : Coll o s) {k : KPc} (hk : s.kpc = k) :
    collAt o s k ∧ s.fut = if k = .done then some (resolveWith s.result s.error) else none := by
  subst hk
  exact ⟨h.pc, h.fut⟩

theorem Coll.frame (h : Coll o s) {ls a} : Coll o { s with logStopped := ls, answers := a } :=
  ⟨h.pc, h.fut⟩

theorem Received.child_step (h : Received o s) (hne : s.cpc ≠ .exited) {pc n p w e k}
    (hn : s.sent ≤ n) :
    Received o { s with cpc := pc, sent := n, pipe := p, wclosed := w, exitcode := e, killed := k } := by
  rcases h with ⟨ht, h2, hr, he⟩ | ⟨_, hx, _⟩
  · exact .inl ⟨ht, Nat.le_trans h2 hn, hr, he⟩
  · exact absurd hx hne

/-- `hp`: the pipe grows at its tail by what was sent.  What is said about a child that is gone is
    not yet in force. -/
theorem collAt.child_step {kpc : KPc} (h : collAt o s kpc) (hne : s.cpc ≠ .exited) {pc n p w e k}
    (hn : s.sent ≤ n)
    (hp : ∀ l, (allMsgs o).take s.sent = l ++ s.pipe → (allMsgs o).take n = l ++ p) :
    collAt o { s with cpc := pc, sent := n, pipe := p, wclosed := w, exitcode := e, killed := k }
      kpc := by
  cases kpc with
  | recv1 => exact ⟨hp [] h.1, h.2⟩
  | recv2 => exact ⟨hp [s.result] h.1, h.2⟩
  | eof => exact absurd h.1 hne
  | waitExit => exact Received.child_step h hne hn
  | endLog => exact absurd h.2 hne
  | joinLog => exact absurd h.2.1 hne
  | resolve => exact absurd h.2.1 hne
  | done => exact absurd h.2.1 hne

theorem Received.verdict (h : Received o s) (hc : Child o s) (hx : s.cpc = .exited) :
    resolveWith s.result s.error = verdict o s.killed := by
  rcases h with ⟨_, h2, hr, he⟩ | ⟨_, _, hv⟩
  · obtain ⟨_, _, hs⟩ := hc.exited hx
    have hb := hc.bound
    rw [hr, he, verdict_full (by omega) (by omega)]
  · exact hv

theorem Coll.fut_some (h : Coll o s) (hc : Child o s) {f : Fut} (hf : s.fut = some f) :
    s.kpc = .done ∧ s.cpc = .exited ∧ f = verdict o s.killed := by
  have hfut := h.fut
  have hpc := h.pc
  by_cases hd : s.kpc = .done
  · rw [hd] at hpc
    rw [hf, if_pos hd] at hfut
    exact ⟨hd, hpc.2.1, (Option.some.inj hfut).trans (hpc.1.verdict hc hpc.2.1)⟩
  · rw [hf, if_neg hd] at hfut
    cases hfut

/-- every recorded answer is "not done yet" from a non-blocking accessor or, the child being gone,
    the table's entry -/
def Answered (o : Outcome) (s : State) : Prop :=
  ∀ a r, (a, r) ∈ s.answers →
    pendingAns a = some r ∨ (s.cpc = .exited ∧ r = finalAns o s.killed a)

theorem Answered.frame (h : Answered o s) {p k r e t l ls f} :
    Answered o { s with pipe := p, kpc := k, result := r, error := e, terminated := t, logEnd := l,
                        logStopped := ls, fut := f } :=
  h

theorem Answered.child_step (h : Answered o s) (hne : s.cpc ≠ .exited) {pc n p w e k} :
    Answered o { s with cpc := pc, sent := n, pipe := p, wclosed := w, exitcode := e, killed := k } :=
  fun a r hm => (h a r hm).elim .inl (fun hx => absurd hx.1 hne)

theorem fut_of_canAnswer {a : Acc} (hcan : canAnswer a s = true) (hb : pendingAns a = none) :
    s.fut.isSome = true := by
  cases a with
  | join | result | exception => exact ((Bool.and_eq_true _ _).mp hcan).2
  | wait | asCompleted => exact hcan
  | done | exitcode => cases hb

theorem answer_eq {a : Acc} {f : Fut} (hcan : canAnswer a s = true)
    (hf : ∀ f', s.fut = some f' → f' = f) : answer a s = ansOfFut a f s.exitcode := by
  have hfut : pendingAns a = none → s.fut = some f := fun hb => by
    obtain ⟨f', hf'⟩ := Option.isSome_iff_exists.mp (fut_of_canAnswer hcan hb)
    rw [hf', hf f' hf']
  cases a
  case done => rfl
  case exitcode => rfl
  all_goals simp only [answer, hfut rfl]

theorem answer_pending {a : Acc} (hcan : canAnswer a s = true) (he : s.exitcode = none)
    (hf : s.fut = none) : pendingAns a = some (answer a s) := by
  have hb : pendingAns a ≠ none := fun hb => by
    have := fut_of_canAnswer hcan hb
    rw [hf] at this
    cases this
  cases a
  case done =>
    simp only [answer, he]
    rfl
  case exitcode =>
    simp only [answer, he]
    rfl
  all_goals exact absurd rfl hb

theorem answer_final (hc : Child o s) (hk : Coll o s) (hx : s.cpc = .exited) {a : Acc}
    (hcan : canAnswer a s = true) : answer a s = finalAns o s.killed a := by
  rw [answer_eq hcan (fun f' hf' => (hk.fut_some hc hf').2.2), (hc.exited hx).2.1]
  rfl

theorem Answered.ask (h : Answered o s) (hc : Child o s) (hk : Coll o s) {a : Acc}
    (hcan : canAnswer a s = true) :
    Answered o { s with answers := s.answers ++ [(a, answer a s)] } := by
  intro a' r hm
  rcases List.mem_append.mp hm with hm | hm
  · exact h a' r hm
  · obtain ⟨rfl, rfl⟩ := Prod.mk.inj (List.mem_singleton.mp hm)
    by_cases hx : s.cpc = .exited
    · exact .inr ⟨hx, answer_final hc hk hx hcan⟩
    · have hnd : s.kpc ≠ .done := fun hd => by
        have := hk.pc
        rw [hd] at this
        exact hx this.2.1
      exact .inl (answer_pending hcan (hc.running hx).2.1 (hk.fut.trans (if_neg hnd)))

structure Inv (c : Cfg) (s : State) : Prop where
  child : Child c.outcome s
  coll : Coll c.outcome s
  answered : Answered c.outcome s

theorem inv_init (c : Cfg) : Inv c init :=
  ⟨⟨fun _ => ⟨rfl, rfl, rfl, rfl⟩, nofun, Nat.zero_le _⟩,
   ⟨⟨rfl, rfl, rfl, rfl⟩, rfl⟩,
   fun _ _ hm => nomatch hm⟩

variable {c : Cfg}

theorem Inv.child_step (hi : Inv c s) (hne : s.cpc ≠ .exited) {pc n p w e k} (hn : s.sent ≤ n)
    (hp : ∀ l, (allMsgs c.outcome).take s.sent = l ++ s.pipe → (allMsgs c.outcome).take n = l ++ p)
    (h : Child c.outcome
      { s with cpc := pc, sent := n, pipe := p, wclosed := w, exitcode := e, killed := k }) :
    Inv c { s with cpc := pc, sent := n, pipe := p, wclosed := w, exitcode := e, killed := k } :=
  ⟨h, ⟨hi.coll.pc.child_step hne hn hp, hi.coll.fut⟩, hi.answered.child_step hne⟩

theorem Inv.child_move (hi : Inv c s) (hne : s.cpc ≠ .exited) {pc w e k}
    (h : Child c.outcome { s with cpc := pc, wclosed := w, exitcode := e, killed := k }) :
    Inv c { s with cpc := pc, wclosed := w, exitcode := e, killed := k } :=
  hi.child_step hne (Nat.le_refl _) (fun _ h => h) h

theorem Inv.coll_step (hi : Inv c s) {p k r e t l f}
    (h : Coll c.outcome { s with pipe := p, kpc := k, result := r, error := e, terminated := t,
                                 logEnd := l, fut := f }) :
    Inv c { s with pipe := p, kpc := k, result := r, error := e, terminated := t, logEnd := l,
                   fut := f } :=
  ⟨hi.child.frame, h, hi.answered.frame⟩

theorem step_kRecv {s' : State} (h : step c s .kRecv = some s') :
    ∃ m rest, s.pipe = m :: rest ∧
      ((s.kpc = .recv1 ∧ s' = { s with kpc := .recv2, result := m, pipe := rest }) ∨
       (s.kpc = .recv2 ∧ s' = { s with kpc := .waitExit, error := m, pipe := rest })) := by
  simp only [step] at h
  split at h
  · exact ⟨_, _, ‹_›, .inl ⟨‹_›, (Option.some.inj h).symm⟩⟩
  · exact ⟨_, _, ‹_›, .inr ⟨‹_›, (Option.some.inj h).symm⟩⟩
  · cases h

theorem step_kEofCode {s' : State} (h : step c s .kEofCode = some s') :
    s.kpc = .eof ∧ ∃ x, s.exitcode = some x ∧
      s' = { s with kpc := .waitExit, error := if -x = 15 then s.error else .exc (.osErr (-x)) } := by
  obtain ⟨hk, h⟩ := Option.ite_none_right_eq_some.mp h
  refine ⟨hk, ?_⟩
  split at h
  · refine ⟨_, ‹_›, ?_⟩
    split at h <;> rename_i h15
    · rw [if_pos h15]
      exact (Option.some.inj h).symm
    · rw [if_neg h15]
      exact (Option.some.inj h).symm
  · cases h

theorem inv_step {s' : State} {a : Act} (hi : Inv c s) (h : step c s a = some s') : Inv c s' := by
  have hc := hi.child
  have hb := hc.bound
  cases a
  case kRecv =>
    obtain ⟨m, rest, hp, ⟨hpc, rfl⟩ | ⟨hpc, rfl⟩⟩ := step_kRecv h
    · obtain ⟨⟨h1, _, h3, h4⟩, hfut⟩ := hi.coll.of_pc hpc
      exact hi.coll_step ⟨⟨h1.trans hp, h3, h4⟩, hfut⟩
    · obtain ⟨⟨h1, _, h3⟩, hfut⟩ := hi.coll.of_pc hpc
      rw [hp] at h1
      obtain ⟨h2, hr, he⟩ := take_eq_two h1
      exact hi.coll_step ⟨.inl ⟨h3, h2, hr, he⟩, hfut⟩
  case kEofCode =>
    obtain ⟨hpc, x, he, rfl⟩ := step_kEofCode h
    obtain ⟨⟨hx, hlt, hr, herr, ht⟩, hfut⟩ := hi.coll.of_pc hpc
    obtain ⟨_, hcode, hs⟩ := hc.exited hx
    have hxe : x = finalCode c.outcome s.killed := Option.some.inj (he.symm.trans hcode)
    refine hi.coll_step ⟨.inr ⟨ht, hx, ?_⟩, hfut⟩
    show resolveWith s.result (if -x = 15 then s.error else .exc (.osErr (-x))) = _
    rw [verdict_short (show sentEnd c.outcome s.killed < 2 by omega), ← hs, ← hxe, hr, herr]
    split
    · exact resolveWith_none _
    · exact resolveWith_exc _ _
  -- every other action is a guarded update
  all_goals obtain ⟨hg, rfl⟩ := Option.ite_some_none_eq_some.mp h
  case cBoot | cTargetEnd =>
    obtain ⟨hne, _, hs⟩ := hc.of_pc hg (by decide)
    exact hi.child_move hne (hc.advance hne (by decide) hs hb)
  case cSend1 =>
    obtain ⟨hne, _, (hs : s.sent = 0)⟩ := hc.of_pc hg.1 (by decide)
    have ht := canSend1_iff.mp hg.2
    refine hi.child_step hne (Nat.le_succ _) (fun l hl => ?_)
      (hc.advance hne (by decide) (by rw [hs]; rfl) (by omega))
    rw [← List.append_assoc, ← hl, hs]
    rfl
  case cSend2 =>
    obtain ⟨hne, _, (hs : s.sent = 1)⟩ := hc.of_pc hg.1 (by decide)
    have ht := canSend2_iff.mp hg.2
    refine hi.child_step hne (Nat.le_succ _) (fun l hl => ?_)
      (hc.advance hne (by decide) (by rw [hs]; rfl) (by omega))
    rw [← List.append_assoc, ← hl, hs]
    rfl
  case cSendFail =>
    -- the message that cannot be pickled is the next one: all that can be sent is out
    have ⟨hne, hkl, hs, hlt⟩ :
        s.cpc ≠ .exited ∧ s.killed = none ∧ s.sent = sentTotal c.outcome ∧ s.sent < 2 := by
      rcases hg with ⟨hg, hcan⟩ | ⟨hg, hcan⟩
      · obtain ⟨hne, hkl, (hs : s.sent = 0)⟩ := hc.of_pc hg (by decide)
        have ht := mt canSend1_iff.mpr (Bool.eq_false_iff.mp hcan)
        exact ⟨hne, hkl, by omega, by omega⟩
      · obtain ⟨hne, hkl, (hs : s.sent = 1)⟩ := hc.of_pc hg (by decide)
        have ht := mt canSend2_iff.mpr (Bool.eq_false_iff.mp hcan)
        exact ⟨hne, hkl, by omega, by omega⟩
    have hst := (own_short (o := c.outcome) (by omega)).2
    exact hi.child_move hne (hc.exit (by rw [hkl]; exact hst.symm) (by rw [hkl]; exact hs))
  case cExit =>
    obtain ⟨hne, hkl, (hs : s.sent = 2)⟩ := hc.of_pc hg (by decide)
    have hst : s.sent = sentTotal c.outcome := by
      have := sentTotal_le c.outcome
      omega
    exact hi.child_move hne (hc.exit (by rw [hkl]; rfl) (by rw [hkl]; exact hst))
  case kill => exact hi.child_move hg.1 (hc.exit rfl (hc.running hg.1).2.2.2)
  case kEof =>
    obtain ⟨hpc, hp, hw⟩ := hg
    have hx : s.cpc = .exited := Decidable.by_contra fun hne => by
      have := (hc.running hne).2.2.1
      rw [hw] at this
      cases this
    rcases hpc with hpc | hpc
    · obtain ⟨⟨h1, h2, h3, _⟩, hfut⟩ := hi.coll.of_pc hpc
      have hs := take_eq_nil (h1.trans hp)
      exact hi.coll_step ⟨⟨hx, (show s.sent < 2 by omega), by rw [h2, hs]; rfl, h3, rfl⟩, hfut⟩
    · obtain ⟨⟨h1, h3, _⟩, hfut⟩ := hi.coll.of_pc hpc
      rw [hp] at h1
      obtain ⟨hs, hr⟩ := take_eq_one h1
      exact hi.coll_step ⟨⟨hx, (show s.sent < 2 by omega), by rw [hr, hs]; rfl, h3, rfl⟩, hfut⟩
  case kSentinel =>
    obtain ⟨hk, hfut⟩ := hi.coll.of_pc hg.1
    exact hi.coll_step ⟨⟨hk, hg.2⟩, hfut⟩
  case kPutEnd =>
    obtain ⟨hk, hfut⟩ := hi.coll.of_pc hg
    exact hi.coll_step ⟨⟨hk.1, hk.2, rfl⟩, hfut⟩
  case kJoinLog =>
    obtain ⟨hk, hfut⟩ := hi.coll.of_pc hg.1
    exact hi.coll_step ⟨hk, hfut⟩
  case kResolve => exact hi.coll_step ⟨(hi.coll.of_pc hg).1, rfl⟩
  case logStop => exact ⟨hc.frame, hi.coll.frame, hi.answered.frame⟩
  case ask => exact ⟨hc.frame, hi.coll.frame, hi.answered.ask hc hi.coll hg⟩

theorem inv_reachable (c : Cfg) {s : State} (hr : Reachable c s) : Inv c s :=
  Core.invariant_reach (fun _ _ _ hi h => inv_step hi h) (inv_init c) hr

end ProcOutcome
