import MpsVerif.Model.Fifo
import MpsVerif.Core.Sys
/-! Relational presentation of `Fifo.step` (one constructor per enabled case) and its soundness.
    Invariant proofs do `cases` on `Step`; the property theorems are stated over `step`/`run`. -/
namespace Fifo

inductive Step (c : Cfg) : State → Act → State → Prop where
  | pull {s} : s.fpc = .idle → s.pulled < c.n →
      Step c s .pull { s with fpc := .check s.pulled, pulled := s.pulled + 1 }
  | srcEnd {s} : s.fpc = .idle → s.pulled = c.n → c.srcEnd = .clean →
      Step c s .srcEnd { s with fpc := .putEnd }
  | srcRaise {s} : s.fpc = .idle → s.pulled = c.n → c.srcEnd = .exc →
      Step c s .srcRaise { s with fpc := .putExc }
  | fcheck {s i} : s.fpc = .check i → s.toStop = false → Step c s .fcheck { s with fpc := .sub i }
  | stopSeen {s i} : s.fpc = .check i → s.toStop = true → Step c s .stopSeen { s with fpc := .putEnd }
  | submit {s i} : s.fpc = .sub i → c.preFail i = false →
      Step c s .submit { s with fpc := .hold i, pending := s.pending ++ [i] }
  | preFail {s i} : s.fpc = .sub i → c.preFail i = true →
      Step c s .preFail { s with fpc := .hold i, finished := i :: s.finished }
  | put {s i} : s.fpc = .hold i → s.queue.length < c.cap + 1 →
      Step c s .put { s with fpc := .idle, queue := s.queue ++ [.item i] }
  | putEnd {s} : s.fpc = .putEnd → s.queue.length < c.cap + 1 →
      Step c s .putEnd { s with fpc := .done, queue := s.queue ++ [.endMark] }
  | putExc {s} : s.fpc = .putExc → s.queue.length < c.cap + 1 →
      Step c s .putExc { s with fpc := .done, queue := s.queue ++ [.excMark] }
  | start {s j} : j ∈ s.pending → s.running.length < c.conc →
      Step c s (.start j) { s with pending := s.pending.erase j, running := s.running ++ [j], calls := j :: s.calls }
  | finish {s j} : j ∈ s.running →
      Step c s (.finish j) { s with running := s.running.erase j, finished := j :: s.finished }
  | getItem {s i rest} : s.cpc = .idle → s.queue = .item i :: rest →
      Step c s .get { s with cpc := .wait i, queue := rest }
  | getEnd {s rest} : s.cpc = .idle → s.queue = .endMark :: rest →
      Step c s .get { s with cpc := .drain, queue := rest }
  | getExc {s rest} : s.cpc = .idle → s.queue = .excMark :: rest →
      Step c s .get { s with cpc := .stopping, queue := rest, raised := some .src }
  | yld {s i} : s.cpc = .wait i → i ∈ s.finished → (c.isErr i = false ∨ c.returnExc = true) →
      Step c s .yld { s with cpc := .susp, out := s.out ++ [i] }
  | raiseItem {s i} : s.cpc = .wait i → i ∈ s.finished → c.isErr i = true → c.returnExc = false →
      Step c s .raiseItem { s with cpc := .stopping, raised := some (.item i) }
  | next {s} : s.cpc = .susp → Step c s .next { s with cpc := .idle }
  | close {s} : s.cpc = .susp → Step c s .close { s with cpc := .stopping, closeReq := true }
  | setStop {s} : s.cpc = .stopping → Step c s .setStop { s with cpc := .drain, toStop := true }
  | drainCancel {s i rest} : s.cpc = .drain → s.queue = .item i :: rest → i ∈ s.pending →
      Step c s .drainCancel { s with queue := rest, pending := s.pending.erase i, cancelled := i :: s.cancelled }
  | drainSkip {s i rest} : s.cpc = .drain → s.queue = .item i :: rest →
      Step c s .drainSkip { s with queue := rest }
  | drainEnd {s rest} : s.cpc = .drain → s.queue = .endMark :: rest →
      Step c s .drainMark { s with cpc := .join, queue := rest }
  | drainExc {s rest} : s.cpc = .drain → s.queue = .excMark :: rest →
      Step c s .drainMark { s with cpc := .join, queue := rest }
  | drainEmpty {s} : s.cpc = .drain → s.queue = [] → Step c s .drainEmpty { s with cpc := .join }
  | join {s} : s.cpc = .join → s.fpc = .done → Step c s .join { s with cpc := .closed }

theorem step_sound (c : Cfg) (s s' : State) (a : Act) (h : step c s a = some s') : Step c s a s' := by
  revert h
  fun_cases step c s a <;> intro h <;> cases h
  next hg => exact .pull hg.1 hg.2
  next hg => exact .srcEnd hg.1 hg.2.1 hg.2.2
  next hg => exact .srcRaise hg.1 hg.2.1 hg.2.2
  next hp hg => exact .fcheck hp hg
  next hp hg => exact .stopSeen hp hg
  next hp hg => exact .submit hp hg
  next hp hg => exact .preFail hp hg
  next hp hg => exact .put hp hg
  next hg => exact .putEnd hg.1 hg.2
  next hg => exact .putExc hg.1 hg.2
  next hg => exact .start hg.1 hg.2
  next hg => exact .finish hg
  next hc _ _ hq => exact .getItem hc hq
  next hc _ hq => exact .getEnd hc hq
  next hc _ hq => exact .getExc hc hq
  next hp hg => exact .yld hp hg.1 hg.2
  next hp hg => exact .raiseItem hp hg.1 hg.2.1 hg.2.2
  next hc => exact .next hc
  next hc => exact .close hc
  next hc => exact .setStop hc
  next hc _ _ hq hm => exact .drainCancel hc hq hm
  next hc _ _ hq => exact .drainSkip hc hq
  next hc _ hq => exact .drainEnd hc hq
  next hc _ hq => exact .drainExc hc hq
  next hg => exact .drainEmpty hg.1 hg.2
  next hg => exact .join hg.1 hg.2

def Reachable (c : Cfg) (s : State) : Prop := Core.Reach (step c) init s

theorem reachable_inv (c : Cfg) {Inv : State → Prop} (h0 : Inv init)
    (hstep : ∀ s a s', Inv s → Step c s a s' → Inv s') {s : State} (hr : Reachable c s) : Inv s :=
  Core.invariant_reach (fun s a s' hi hs => hstep s a s' hi (step_sound c s s' a hs)) h0 hr

end Fifo
