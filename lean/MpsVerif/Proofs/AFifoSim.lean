import MpsVerif.Proofs.AFifoStep
import MpsVerif.Proofs.FifoFacts
/-! The `async_fifo_stream` model seen as the `fifo_stream` model.

Forget the second component of the hand-off pairs, the feeder's variable `t` and the list of tasks
cancelled while running, and let the consumer's wait for those tasks (`reap`) count as the beginning
of `join`: every step of the async model then is a step of the threaded model or changes nothing
(`sim`), provided the pair handed over for element `x` carries `x`'s own awaitable (`PairInv`).
asyncio puts no limit on the tasks under way, so the threaded model is taken with a pool large
enough for the step at hand; `Fifo.AllInv` does not mention the pool's size. -/
namespace AFifo
open Fifo (Cfg SrcEnd Raised)

/-- element `i` travelling with its own awaitable -/
def dup (i : Nat) : Nat × Nat := (i, i)

def QItem.sync : QItem → Fifo.QItem
  | .item x _ => .item x | .endMark => .endMark | .excMark => .excMark

def FPc.sync : FPc → Fifo.FPc
  | .idle => .idle | .check i => .check i | .sub i => .sub i | .hold i => .hold i
  | .putEnd => .putEnd | .putExc => .putExc | .done => .done

def CPc.sync : CPc → Fifo.CPc
  | .idle => .idle | .wait x _ => .wait x | .susp => .susp | .stopping => .stopping
  | .drain => .drain | .reap => .join | .join => .join | .closed => .closed

def State.sync (s : State) : Fifo.State :=
  { pulled := s.pulled, fpc := s.fpc.sync, queue := s.queue.map QItem.sync, toStop := s.toStop,
    cpc := s.cpc.sync, out := s.out.map Prod.fst, raised := s.raised, closeReq := s.closeReq,
    pending := s.pending, running := s.running, finished := s.finished, cancelled := s.cancelled,
    calls := s.calls }

theorem State.sync_put (s : State) (f : FPc) (x : QItem) :
    State.sync { s with fpc := f, queue := s.queue ++ [x] } =
      { s.sync with fpc := f.sync, queue := s.sync.queue ++ [x.sync] } := by
  unfold State.sync
  rw [List.map_append]
  rfl

theorem State.sync_yld (s : State) (p : CPc) (x t : Nat) :
    State.sync { s with cpc := p, out := s.out ++ [(x, t)] } =
      { s.sync with cpc := p.sync, out := s.sync.out ++ [x] } := by
  unfold State.sync
  rw [List.map_append]
  rfl

/-! ## The vocabulary of the threaded model's invariants, read on the async state -/

def CPc.active : CPc → Bool
  | .idle | .wait _ _ | .susp => true
  | _ => false

def tailOK : List QItem → Prop
  | [] => True
  | .item _ _ :: r => tailOK r
  | _ :: r => r = []

theorem tailOK_tail (a : QItem) (q : List QItem) (h : tailOK (a :: q)) : tailOK q := by
  cases a <;> simp_all [tailOK]

def fFresh : FPc → Nat
  | .check _ => 1 | .sub _ => 1 | _ => 0
@[simp] theorem fFresh_idle : fFresh .idle = 0 := rfl
@[simp] theorem fFresh_check (i : Nat) : fFresh (.check i) = 1 := rfl
@[simp] theorem fFresh_sub (i : Nat) : fFresh (.sub i) = 1 := rfl
@[simp] theorem fFresh_hold (i : Nat) : fFresh (.hold i) = 0 := rfl
@[simp] theorem fFresh_putEnd : fFresh .putEnd = 0 := rfl
@[simp] theorem fFresh_putExc : fFresh .putExc = 0 := rfl
@[simp] theorem fFresh_done : fFresh .done = 0 := rfl

theorem CPc.active_sync (p : CPc) : p.sync.active = p.active := by cases p <;> rfl

theorem fFresh_sync (f : FPc) : Fifo.fFresh f.sync = fFresh f := by cases f <;> rfl

theorem tailOK_sync (q : List QItem) : Fifo.tailOK (q.map QItem.sync) ↔ tailOK q := by
  induction q with
  | nil => rfl
  | cons a q ih => cases a <;> simp [tailOK, Fifo.tailOK, QItem.sync, ih]

/-- the awaitable travelling with element `x` is the one created for `x` -/
structure PairInv (s : State) : Prop where
  queue : ∀ {x t}, QItem.item x t ∈ s.queue → x = t
  wait : ∀ {x t}, s.cpc = .wait x t → x = t
  held : ∀ {i}, s.fpc = .hold i → s.tvar = some i
  out : ∀ p ∈ s.out, p = dup p.1

theorem pair_init : PairInv init := ⟨nofun, nofun, nofun, nofun⟩

theorem pair_step {c : Cfg} {s s' : State} {a : Act} (h : PairInv s) (hs : Step c s a s') :
    PairInv s' := by
  have tail : ∀ {y q}, s.queue = y :: q → ∀ {x t}, QItem.item x t ∈ q → x = t :=
    fun hq _ _ hm => h.queue (hq ▸ List.mem_cons_of_mem _ hm)
  cases hs with
  | start | finish => exact { h with }
  | pull | srcEnd | srcRaise | fcheck | stopSeen | unbound => exact { h with held := nofun }
  | submit | preFail => exact { h with held := fun hi => by cases hi; rfl }
  | put hf ht =>
    refine { h with held := nofun, queue := fun hm => ?_ }
    rcases List.mem_append.mp hm with hm | hm
    · exact h.queue hm
    · cases List.mem_singleton.mp hm
      exact Option.some.inj ((h.held hf).symm.trans ht)
  | putEnd | putExc =>
    refine { h with held := nofun, queue := fun hm => h.queue ?_ }
    exact (List.mem_append.mp hm).resolve_right fun hm => nomatch List.mem_singleton.mp hm
  | getItem _ hq =>
    refine { h with queue := tail hq, wait := fun he => ?_ }
    cases he
    exact h.queue (hq ▸ List.mem_cons_self)
  | getEnd _ hq | getExc _ hq | drainEnd _ hq | drainExc _ hq =>
    exact { h with queue := tail hq, wait := nofun }
  | drainCancel _ hq | drainCancelRun _ hq | drainDetach _ hq | drainSkip _ hq =>
    exact { h with queue := tail hq }
  | yld hc =>
    refine { h with wait := nofun, out := fun p hp => ?_ }
    rcases List.mem_append.mp hp with hp | hp
    · exact h.out p hp
    · cases List.mem_singleton.mp hp
      cases h.wait hc
      rfl
  | raiseItem | next | close | setStop | drainEmpty | reap | join => exact { h with wait := nofun }

theorem sim {c : Cfg} {s s' : State} {a : Act} (hp : PairInv s) (hs : Step c s a s') :
    (s.cpc = .reap ∧ s'.cpc = .join ∧ s'.sync = s.sync) ∨
    ∃ a', Fifo.Step { c with conc := s.running.length + 1 } s.sync a' s'.sync := by
  have fp : ∀ {f}, s.fpc = f → s.sync.fpc = f.sync := congrArg FPc.sync
  have cp : ∀ {p}, s.cpc = p → s.sync.cpc = p.sync := congrArg CPc.sync
  have qu : ∀ {q}, s.queue = q → s.sync.queue = q.map QItem.sync := congrArg _
  have hlen : ∀ {k}, s.queue.length < k → s.sync.queue.length < k := fun h =>
    (List.length_map QItem.sync).symm ▸ h
  cases hs with
  | pull hf hn => exact .inr ⟨_, .pull (fp hf) hn⟩
  | srcEnd hf hn hc => exact .inr ⟨_, .srcEnd (fp hf) hn hc⟩
  | srcRaise hf hn hc => exact .inr ⟨_, .srcRaise (fp hf) hn hc⟩
  | fcheck hf ht => exact .inr ⟨_, .fcheck (fp hf) ht⟩
  | stopSeen hf ht => exact .inr ⟨_, .stopSeen (fp hf) ht⟩
  | submit hf hpf => exact .inr ⟨_, .submit (fp hf) hpf⟩
  | preFail hf hpf => exact .inr ⟨_, .preFail (fp hf) hpf⟩
  | put hf _ hl =>
    rw [State.sync_put]
    exact .inr ⟨_, .put (fp hf) (hlen hl)⟩
  | unbound hf ht => exact nomatch (hp.held hf).symm.trans ht
  | putEnd hf hl =>
    rw [State.sync_put]
    exact .inr ⟨_, .putEnd (fp hf) (hlen hl)⟩
  | putExc hf hl =>
    rw [State.sync_put]
    exact .inr ⟨_, .putExc (fp hf) (hlen hl)⟩
  | start hj => exact .inr ⟨_, .start hj (Nat.lt_succ_self _)⟩
  | finish hj => exact .inr ⟨_, .finish hj⟩
  | getItem hc hq => exact .inr ⟨_, .getItem (cp hc) (qu hq)⟩
  | getEnd hc hq => exact .inr ⟨_, .getEnd (cp hc) (qu hq)⟩
  | getExc hc hq => exact .inr ⟨_, .getExc (cp hc) (qu hq)⟩
  | yld hc hfin hok =>
    cases hp.wait hc
    rw [State.sync_yld]
    exact .inr ⟨_, .yld (cp hc) hfin hok⟩
  | raiseItem hc hfin he hr =>
    cases hp.wait hc
    exact .inr ⟨_, .raiseItem (cp hc) hfin he hr⟩
  | next hc => exact .inr ⟨_, .next (cp hc)⟩
  | close hc => exact .inr ⟨_, .close (cp hc)⟩
  | setStop hc => exact .inr ⟨_, .setStop (cp hc)⟩
  | drainCancel hc hq hj =>
    cases hp.queue (hq ▸ List.mem_cons_self)
    exact .inr ⟨_, .drainCancel (cp hc) (qu hq) hj⟩
  | drainCancelRun hc hq | drainDetach hc hq | drainSkip hc hq =>
    exact .inr ⟨_, .drainSkip (cp hc) (qu hq)⟩
  | drainEnd hc hq => exact .inr ⟨_, .drainEnd (cp hc) (qu hq)⟩
  | drainExc hc hq => exact .inr ⟨_, .drainExc (cp hc) (qu hq)⟩
  | drainEmpty hc hq => exact .inr ⟨_, .drainEmpty (cp hc) (qu hq)⟩
  | reap hc =>
    refine .inl ⟨hc, rfl, ?_⟩
    unfold State.sync
    rw [hc]
    rfl
  | join hc hf => exact .inr ⟨_, .join (cp hc) (fp hf)⟩

structure Inv (c : Cfg) (s : State) : Prop where
  pair : PairInv s
  sync : Fifo.AllInv c s.sync

theorem inv_reachable (c : Cfg) {s : State} (hr : Reachable c s) : Inv c s := by
  refine reachable_inv c ⟨pair_init, Fifo.all_init c⟩ (fun s a s' h hs => ⟨pair_step h.pair hs, ?_⟩) hr
  rcases sim h.pair hs with ⟨_, _, e⟩ | ⟨a', hs'⟩
  · exact e ▸ h.sync
  · exact (Fifo.all_step _ _ _ _ (h.sync.conc _) hs').conc c.conc

theorem Inv.out_eq {c : Cfg} {s : State} (h : Inv c s) : s.out = s.sync.out.map dup := by
  show s.out = (s.out.map Prod.fst).map dup
  rw [List.map_map]
  exact (List.map_id _).symm.trans (List.map_congr_left h.pair.out)

theorem Inv.out_range {c : Cfg} {s : State} (h : Inv c s) : s.out = (List.range s.out.length).map dup :=
  h.out_eq.trans (congrArg (List.map dup) (h.sync.res.out_eq.trans (congrArg List.range (List.length_map _))))

theorem Inv.final_outcome {c : Cfg} {s : State} (h : Inv c s) (hcl : s.cpc = .closed)
    (hnc : s.closeReq = false) : (s.out.length, s.raised) = outcome c :=
  (List.length_map (as := s.out) Prod.fst) ▸ h.sync.final_outcome (congrArg CPc.sync hcl) hnc

end AFifo
