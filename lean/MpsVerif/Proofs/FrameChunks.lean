import MpsVerif.Proofs.Frame
/-! The reading loop: its equations without fuel, written streams read back, and chunk independence
    `readChunks lim chunks = decodeStream lim chunks.flatten`. -/
namespace Frame

theorem readRecord_ok_length {lim : Nat} {bs rest : Bytes} {r : Rec} (h : readRecord lim bs = .ok r rest) :
    rest.length < bs.length := by
  have := readRecord_append lim bs []
  rw [h] at this
  exact this.1

theorem drainFuel_fuel (lim : Nat) : ∀ (f1 f2 : Nat) (bs : Bytes), bs.length < f1 → bs.length < f2 →
    drainFuel lim f1 bs = drainFuel lim f2 bs := by
  intro f1
  induction f1 with
  | zero => exact fun f2 bs h => absurd h (Nat.not_lt_zero _)
  | succ f1 ih =>
    intro f2 bs h1 h2
    cases f2 with
    | zero => exact absurd h2 (Nat.not_lt_zero _)
    | succ f2 =>
      rw [drainFuel, drainFuel]
      cases hr : readRecord lim bs with
      | ok r rest =>
        have := readRecord_ok_length hr
        simp only
        rw [ih f2 rest (Nat.lt_of_lt_of_le this (Nat.le_of_lt_succ h1))
          (Nat.lt_of_lt_of_le this (Nat.le_of_lt_succ h2))]
      | _ => rfl

def drain (lim : Nat) (bs : Bytes) : List Rec × Bytes × Option End := drainFuel lim (bs.length + 1) bs

theorem drain_eq (lim : Nat) (bs : Bytes) :
    drain lim bs = match readRecord lim bs with
      | .ok r rest => (r :: (drain lim rest).1, (drain lim rest).2.1, (drain lim rest).2.2)
      | .eof => ([], bs, none)
      | .incomplete => ([], bs, none)
      | .overrun => ([], bs, some .overrun)
      | .bad => ([], bs, some .bad) := by
  rw [drain, drainFuel]
  cases hr : readRecord lim bs with
  | ok r rest =>
    have := readRecord_ok_length hr
    simp only
    rw [drain, drainFuel_fuel lim bs.length (rest.length + 1) rest this (Nat.lt_succ_self _)]
  | _ => rfl

/-- the ending a drained reader reports at end of stream -/
def fin (p : List Rec × Bytes × Option End) : List Rec × End :=
  (p.1, match p.2.2 with
    | some e => e
    | none => if p.2.1.isEmpty then .eof else .incomplete)

theorem decodeFuel_eq_drain (lim : Nat) : ∀ (f : Nat) (bs : Bytes), bs.length < f →
    decodeFuel lim f bs = fin (drainFuel lim f bs) := by
  intro f
  induction f with
  | zero => exact fun bs h => absurd h (Nat.not_lt_zero _)
  | succ f ih =>
    intro bs h
    have hx := readRecord_append lim bs []
    rw [decodeFuel, drainFuel]
    cases hr : readRecord lim bs with
    | ok r rest =>
      rw [hr] at hx
      simp only
      rw [ih rest (Nat.lt_of_lt_of_le hx.1 (Nat.le_of_lt_succ h))]
      rfl
    | eof =>
      rw [hr] at hx
      rw [hx]
      rfl
    | incomplete =>
      rw [hr] at hx
      simp only [fin, List.isEmpty_eq_false_iff.2 hx, Bool.false_eq_true, if_false]
    | overrun => rfl
    | bad => rfl

theorem decodeStream_eq_drain (lim : Nat) (bs : Bytes) : decodeStream lim bs = fin (drain lim bs) :=
  decodeFuel_eq_drain lim _ bs (Nat.lt_succ_self _)

theorem decodeStream_eq (lim : Nat) (bs : Bytes) :
    decodeStream lim bs = match readRecord lim bs with
      | .ok r rest => (r :: (decodeStream lim rest).1, (decodeStream lim rest).2)
      | .eof => ([], .eof)
      | .incomplete => ([], .incomplete)
      | .overrun => ([], .overrun)
      | .bad => ([], .bad) := by
  have hx := readRecord_append lim bs []
  rw [decodeStream_eq_drain, drain_eq]
  cases hr : readRecord lim bs with
  | ok r rest =>
    simp only [decodeStream_eq_drain]
    rfl
  | eof =>
    rw [hr] at hx
    rw [hx]
    rfl
  | incomplete =>
    rw [hr] at hx
    simp only [fin, List.isEmpty_eq_false_iff.2 hx, Bool.false_eq_true, if_false]
  | overrun => rfl
  | bad => rfl

theorem decodeStream_nil (lim : Nat) : decodeStream lim [] = ([], .eof) := rfl

theorem decodeStream_encode (lim : Nat) (rs : List Rec) (hw : ∀ r ∈ rs, WellFormed lim r) (t : Bytes) :
    decodeStream lim (encodeStream rs ++ t) = (rs ++ (decodeStream lim t).1, (decodeStream lim t).2) := by
  induction rs with
  | nil => rfl
  | cons r rs ih =>
    have : encodeStream (r :: rs) ++ t = encodeRecord r ++ (encodeStream rs ++ t) := by
      simp only [encodeStream, List.flatMap_cons, List.append_assoc]
    rw [this, decodeStream_eq, readRecord_encode lim r _ (hw r List.mem_cons_self)]
    simp only
    rw [ih fun x hx => hw x (List.mem_cons_of_mem _ hx)]
    rfl

/-- the reader that has been fed `bs` -/
def Reader.after (lim : Nat) (bs : Bytes) : Reader :=
  { out := (drain lim bs).1, buf := (drain lim bs).2.1, ended := (drain lim bs).2.2 }

theorem feed_cons (lim : Nat) (r : Rec) (rd : Reader) (ch : Bytes) :
    Reader.feed lim { rd with out := r :: rd.out } ch =
      { Reader.feed lim rd ch with out := r :: (Reader.feed lim rd ch).out } := by
  unfold Reader.feed
  cases rd.ended <;> rfl

theorem after_ok {lim : Nat} {bs rest : Bytes} {r : Rec} (h : readRecord lim bs = .ok r rest) :
    Reader.after lim bs = { Reader.after lim rest with out := r :: (Reader.after lim rest).out } := by
  rw [Reader.after, drain_eq, h]
  rfl

theorem feed_after (lim : Nat) (pre ch : Bytes) :
    Reader.feed lim (Reader.after lim pre) ch = Reader.after lim (pre ++ ch) := by
  have hx := readRecord_append lim pre ch
  cases hr : readRecord lim pre with
  | ok r rest =>
    rw [hr] at hx
    rw [after_ok hr, after_ok hx.2, feed_cons, feed_after lim rest ch]
  | eof =>
    rw [hr] at hx
    rw [hx]
    rfl
  | incomplete =>
    rw [Reader.after, drain_eq, hr]
    rfl
  | overrun =>
    rw [hr] at hx
    rw [Reader.after, Reader.after, drain_eq, drain_eq lim (pre ++ ch), hr, hx]
    rfl
  | bad =>
    rw [hr] at hx
    rw [Reader.after, Reader.after, drain_eq, drain_eq lim (pre ++ ch), hr, hx]
    rfl
termination_by pre.length
decreasing_by exact readRecord_ok_length hr
theorem foldl_feed (lim : Nat) (cs : List Bytes) : ∀ pre : Bytes,
    cs.foldl (Reader.feed lim) (Reader.after lim pre) = Reader.after lim (pre ++ cs.flatten) := by
  induction cs with
  | nil =>
    intro pre
    rw [List.flatten_nil, List.append_nil]
    rfl
  | cons ch cs ih =>
    intro pre
    rw [List.foldl_cons, feed_after, ih, List.flatten_cons, List.append_assoc]

theorem readChunks_eq (lim : Nat) (chunks : List Bytes) :
    readChunks lim chunks = decodeStream lim chunks.flatten := by
  have := foldl_feed lim chunks []
  rw [List.nil_append] at this
  rw [readChunks, decodeStream_eq_drain, show Reader.init = Reader.after lim [] from rfl, this]
  unfold Reader.eof Reader.after fin
  cases (drain lim chunks.flatten).2.2 <;> rfl

end Frame
