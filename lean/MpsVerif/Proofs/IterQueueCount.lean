import MpsVerif.Proofs.IterQueueStep
/-!
# Counting for the `IterableQueue` model

"How many actors are at pc …" is a `wsum` of an indicator over the actor list.  The actor that moves is
set apart from the others by `eraseIdx`, so a step replaces one summand and nothing is ever
subtracted; `t.add p` is the tally `t` with one more actor at pc `p`.
-/
namespace IterQueue

def ind (b : Bool) : Nat := if b then 1 else 0
@[simp] theorem ind_true : ind true = 1 := rfl
@[simp] theorem ind_false : ind false = 0 := rfl
theorem ind_le (b : Bool) : ind b ≤ 1 := by cases b <;> simp
theorem ind_eq_zero {b : Bool} (h : ind b = 0) : b = false := by
  cases b with
  | false => rfl
  | true => cases h
theorem ind_eq_one {b : Bool} (h : ind b = 1) : b = true := by
  cases b with
  | false => cases h
  | true => rfl

theorem wsum_eraseIdx {α : Type} (f : α → Nat) : ∀ {l : List α} {j : Nat} {a : α}, l[j]? = some a →
    wsum f l = wsum f (l.eraseIdx j) + f a := by
  intro l
  induction l with
  | nil => intro j a h; cases h
  | cons x l ih =>
    intro j a h
    cases j with
    | zero =>
      cases h
      exact Nat.add_comm _ _
    | succ j => rw [List.eraseIdx_cons_succ, wsum, wsum, ih h, Nat.add_assoc]

theorem wsum_set {α : Type} (f : α → Nat) {l : List α} {j : Nat} {a : α} (h : l[j]? = some a) (b : α) :
    wsum f (l.set j b) = wsum f (l.eraseIdx j) + f b := by
  have hj : j < l.length := (List.getElem?_eq_some_iff.mp h).1
  rw [wsum_eraseIdx f (List.getElem?_set_self hj), List.eraseIdx_set_eq]

theorem wsum_replicate {α : Type} (f : α → Nat) (a : α) : ∀ n, wsum f (List.replicate n a) = n * f a := by
  intro n
  induction n with
  | zero => simp [wsum]
  | succ n ih => simp only [List.replicate_succ, wsum, ih]; rw [Nat.succ_mul]; omega

theorem wsum_eq_zero {α : Type} (f : α → Nat) : ∀ {l : List α}, (∀ a ∈ l, f a = 0) → wsum f l = 0 := by
  intro l
  induction l with
  | nil => intro _; rfl
  | cons x l ih =>
    intro h
    simp only [wsum, h x (List.mem_cons_self), ih (fun a ha => h a (List.mem_cons_of_mem _ ha))]

theorem wsum_zero_mem {α : Type} (f : α → Nat) : ∀ {l : List α}, wsum f l = 0 → ∀ a ∈ l, f a = 0 := by
  intro l
  induction l with
  | nil => intro _ a ha; cases ha
  | cons x l ih =>
    intro h a ha
    simp only [wsum] at h
    rcases List.mem_cons.mp ha with h1 | h1
    · subst h1; omega
    · exact ih (by omega) a h1

def cntC (q : CPc → Bool) (l : List Con) : Nat := wsum (fun a => ind (q a.pc)) l

theorem cntC_eraseIdx (q : CPc → Bool) {l : List Con} {j : Nat} {a : Con} (h : l[j]? = some a) :
    cntC q l = cntC q (l.eraseIdx j) + ind (q a.pc) := wsum_eraseIdx _ h

theorem cntC_set (q : CPc → Bool) {l : List Con} {j : Nat} {a : Con} (h : l[j]? = some a) (b : Con) :
    cntC q (l.set j b) = cntC q (l.eraseIdx j) + ind (q b.pc) := wsum_set _ h b

theorem cntC_replicate (q : CPc → Bool) (n : Nat) (a : Con) : cntC q (List.replicate n a) = n * ind (q a.pc) :=
  wsum_replicate _ a n

theorem cntC_zero_of_all (q : CPc → Bool) (l : List Con) (h : ∀ a ∈ l, q a.pc = false) : cntC q l = 0 :=
  wsum_eq_zero _ (fun a ha => by simp [h a ha])

theorem cntC_zero_mem (q : CPc → Bool) (l : List Con) (h : cntC q l = 0) : ∀ a ∈ l, q a.pc = false :=
  fun a ha => ind_eq_zero (wsum_zero_mem _ h a ha)

namespace CPc
@[simp] def isChk2 : CPc → Bool | .chk2 => true | _ => false
@[simp] def isReput : CPc → Bool | .reput => true | _ => false
@[simp] def isLock : CPc → Bool | .lock => true | _ => false
@[simp] def isTake : CPc → Bool | .take => true | _ => false
@[simp] def isGive : CPc → Bool | .give => true | _ => false
@[simp] def isTest : CPc → Bool | .test => true | _ => false
@[simp] def isUnlT : CPc → Bool | .unl true => true | _ => false
@[simp] def isUnlF : CPc → Bool | .unl false => true | _ => false
@[simp] def isExtra : CPc → Bool | .extra => true | _ => false
@[simp] def isDone : CPc → Bool | .done => true | _ => false
@[simp] def isGet : CPc → Bool | .get => true | _ => false
@[simp] def isChk1 : CPc → Bool | .chk1 => true | _ => false
@[simp] def isStopped : CPc → Bool | .stopped => true | _ => false
end CPc

namespace SPc
@[simp] def notStarted : SPc → Bool | .idle | .putw _ | .stoppedP => true | _ => false
@[simp] def isPe1 : SPc → Bool | .pe1 => true | _ => false
@[simp] def noMark : SPc → Bool | .pe2 | .stoppedE => true | _ => false
@[simp] def isEnded : SPc → Bool | .ended => true | _ => false
end SPc

structure CCount where
  chk2 : Nat
  reput : Nat
  lock : Nat
  take : Nat
  give : Nat
  test : Nat
  unlT : Nat
  unlF : Nat
  extra : Nat
  done : Nat

def CCount.add (t : CCount) : CPc → CCount
  | .chk2 => { t with chk2 := t.chk2 + 1 }
  | .reput => { t with reput := t.reput + 1 }
  | .lock => { t with lock := t.lock + 1 }
  | .take => { t with take := t.take + 1 }
  | .give => { t with give := t.give + 1 }
  | .test => { t with test := t.test + 1 }
  | .unl true => { t with unlT := t.unlT + 1 }
  | .unl false => { t with unlF := t.unlF + 1 }
  | .extra => { t with extra := t.extra + 1 }
  | .done => { t with done := t.done + 1 }
  | .chk1 | .get | .stopped => t

def ccount (l : List Con) : CCount :=
  ⟨cntC CPc.isChk2 l, cntC CPc.isReput l, cntC CPc.isLock l, cntC CPc.isTake l, cntC CPc.isGive l,
   cntC CPc.isTest l, cntC CPc.isUnlT l, cntC CPc.isUnlF l, cntC CPc.isExtra l, cntC CPc.isDone l⟩

theorem ccount_eraseIdx {l : List Con} {j : Nat} {a : Con} (h : l[j]? = some a) :
    ccount l = (ccount (l.eraseIdx j)).add a.pc := by
  simp only [ccount, cntC_eraseIdx _ h]
  cases a.pc with
  | unl b => cases b <;> rfl
  | _ => rfl

theorem ccount_set {l : List Con} {j : Nat} {a : Con} (h : l[j]? = some a) (b : Con) :
    ccount (l.set j b) = (ccount (l.eraseIdx j)).add b.pc := by
  have hj : j < l.length := (List.getElem?_eq_some_iff.mp h).1
  rw [ccount_eraseIdx (List.getElem?_set_self hj), List.eraseIdx_set_eq]

/-- suppliers by the place of their token: still in `spare` (`fresh`), in hand (`pe1`), in `applied`
    with the marker not yet enqueued (`noMark`) -/
structure SCount where
  fresh : Nat
  pe1 : Nat
  noMark : Nat

def SCount.add (t : SCount) : SPc → SCount
  | .idle | .putw _ | .stoppedP => { t with fresh := t.fresh + 1 }
  | .pe1 => { t with pe1 := t.pe1 + 1 }
  | .pe2 | .stoppedE => { t with noMark := t.noMark + 1 }
  | .ended => t

theorem SCount.eq_zero {t : SCount} (e : t.fresh = 0 ∧ t.pe1 = 0 ∧ t.noMark = 0) : t = ⟨0, 0, 0⟩ := by
  cases t
  dsimp only at e
  rw [e.1, e.2.1, e.2.2]

def scount (l : List Sup) : SCount :=
  ⟨wsum (fun a => ind a.pc.notStarted) l, wsum (fun a => ind a.pc.isPe1) l, wsum (fun a => ind a.pc.noMark) l⟩

theorem scount_eraseIdx {l : List Sup} {i : Nat} {a : Sup} (h : l[i]? = some a) :
    scount l = (scount (l.eraseIdx i)).add a.pc := by
  simp only [scount, wsum_eraseIdx _ h]
  cases a.pc <;> rfl

theorem scount_set {l : List Sup} {i : Nat} {a : Sup} (h : l[i]? = some a) (b : Sup) :
    scount (l.set i b) = (scount (l.eraseIdx i)).add b.pc := by
  have hi : i < l.length := (List.getElem?_eq_some_iff.mp h).1
  rw [scount_eraseIdx (List.getElem?_set_self hi), List.eraseIdx_set_eq]

theorem SCount.add_stop (t : SCount) {p : SPc} (hw : p.waiting = true) :
    t.add (if p = .pe2 then .stoppedE else .stoppedP) = t.add p := by
  cases p with
  | putw x => rfl
  | pe2 => rfl
  | _ => cases hw

theorem ccount_replicate_fresh (n : Nat) : ccount (List.replicate n freshCon) = ⟨0, 0, 0, 0, 0, 0, 0, 0, 0, 0⟩ := by
  simp only [ccount, cntC_replicate]
  rfl

theorem scount_replicate_fresh (n : Nat) : scount (List.replicate n freshSup) = ⟨n, 0, 0⟩ := by
  simp only [scount, wsum_replicate]
  exact congrArg (SCount.mk · 0 0) (Nat.mul_one n)

theorem ccount_idle {l : List Con}
    (h : ∀ a ∈ l, a.pc = .chk1 ∨ a.pc = .get ∨ a.pc = .done ∨ a.pc = .stopped) :
    ∃ d, ccount l = ⟨0, 0, 0, 0, 0, 0, 0, 0, 0, d⟩ := by
  induction l with
  | nil => exact ⟨0, rfl⟩
  | cons a l ih =>
    obtain ⟨d, e⟩ := ih fun b hb => h b (List.mem_cons_of_mem a hb)
    rw [ccount_eraseIdx (l := a :: l) (j := 0) rfl, List.eraseIdx_cons_zero, e]
    rcases h a List.mem_cons_self with p | p | p | p <;> rw [p] <;> exact ⟨_, rfl⟩

theorem scount_ended {l : List Sup} (h : ∀ a ∈ l, a.pc = .ended) : scount l = ⟨0, 0, 0⟩ := by
  have z : ∀ q : SPc → Bool, q .ended = false → wsum (fun a : Sup => ind (q a.pc)) l = 0 :=
    fun q hq => wsum_eq_zero _ fun a ha => by rw [h a ha, hq]; rfl
  rw [scount, z SPc.notStarted rfl, z SPc.isPe1 rfl, z SPc.noMark rfl]

theorem ended_of_scount_zero {l : List Sup} (h : scount l = ⟨0, 0, 0⟩) : ∀ a ∈ l, a.pc = .ended := by
  intro a ha
  obtain ⟨i, hi⟩ := List.mem_iff_getElem?.mp ha
  rw [scount_eraseIdx hi] at h
  generalize scount (l.eraseIdx i) = R, a.pc = p at h ⊢
  cases R
  cases p with
  | ended => rfl
  | _ => cases h

theorem itemsOf_append_item (q : List QItem) (i x : Nat) : itemsOf (q ++ [.item i x]) = itemsOf q ++ [(i, x)] := by
  induction q with
  | nil => rfl
  | cons a q ih => cases a <;> simp [itemsOf, ih]

theorem itemsOf_append_mark (q : List QItem) : itemsOf (q ++ [.mark]) = itemsOf q := by
  induction q with
  | nil => rfl
  | cons a q ih => cases a <;> simp [itemsOf, ih]

theorem marksOf_append_item (q : List QItem) (i x : Nat) : marksOf (q ++ [.item i x]) = marksOf q := by
  induction q with
  | nil => rfl
  | cons a q ih => cases a <;> simp [marksOf, ih]

theorem marksOf_append_mark (q : List QItem) : marksOf (q ++ [.mark]) = marksOf q + 1 := by
  induction q with
  | nil => rfl
  | cons a q ih => cases a <;> simp [marksOf, ih]

/-- every value in the queue whose supplier has ended has an end marker behind it -/
def fifoOk (e : Nat → Bool) : List QItem → Bool
  | [] => true
  | .item i _ :: q => (!e i || decide (1 ≤ marksOf q)) && fifoOk e q
  | .mark :: q => fifoOk e q

theorem fifoOk_append_mark (e : Nat → Bool) (q : List QItem) : fifoOk e (q ++ [.mark]) = true := by
  induction q with
  | nil => rfl
  | cons a q ih =>
    cases a with
    | mark => simpa [fifoOk] using ih
    | item i x =>
      simp only [List.cons_append, fifoOk, ih, Bool.and_true, marksOf_append_mark]
      simp

theorem fifoOk_append_item {e : Nat → Bool} {q : List QItem} {i x : Nat} (h : fifoOk e q = true)
    (hi : e i = false) : fifoOk e (q ++ [.item i x]) = true := by
  induction q with
  | nil => simp [fifoOk, hi]
  | cons a q ih =>
    cases a with
    | mark => simp only [List.cons_append, fifoOk] at h ⊢; exact ih h
    | item i' x' =>
      simp only [List.cons_append, fifoOk, Bool.and_eq_true, marksOf_append_item] at h ⊢
      exact ⟨h.1, ih h.2⟩

theorem fifoOk_mono {e e' : Nat → Bool} (hle : ∀ i, e' i = true → e i = true) {q : List QItem}
    (h : fifoOk e q = true) : fifoOk e' q = true := by
  induction q with
  | nil => rfl
  | cons a q ih =>
    cases a with
    | mark => simp only [fifoOk] at h ⊢; exact ih h
    | item i x =>
      simp only [fifoOk, Bool.and_eq_true, Bool.or_eq_true, Bool.not_eq_true', decide_eq_true_eq] at h ⊢
      refine ⟨?_, ih h.2⟩
      rcases h.1 with h1 | h1
      · left
        cases he : e' i with
        | false => rfl
        | true => rw [hle i he] at h1; cases h1
      · exact Or.inr h1

theorem fifoOk_no_items {e : Nat → Bool} (he : ∀ i, e i = true) {q : List QItem} (h : fifoOk e q = true)
    (hm : marksOf q = 0) : itemsOf q = [] := by
  induction q with
  | nil => rfl
  | cons a q ih =>
    cases a with
    | mark => simp [marksOf] at hm
    | item i x =>
      simp only [marksOf] at hm
      simp [fifoOk, he i, hm] at h

theorem queue_nil_of (q : List QItem) (hi : itemsOf q = []) (hm : marksOf q = 0) : q = [] := by
  cases q with
  | nil => rfl
  | cons x r =>
    cases x with
    | item i v => cases hi
    | mark => cases hm

theorem queue_of_one_mark {q : List QItem} (hi : itemsOf q = []) (hm : marksOf q = 1) : q = [.mark] := by
  cases q with
  | nil => cases hm
  | cons x r =>
    cases x with
    | item i v => cases hi
    | mark => rw [queue_nil_of r hi (Nat.succ.inj hm)]

theorem fifoOk_of_cons {e : Nat → Bool} {x : QItem} {q : List QItem} (h : fifoOk e (x :: q) = true) :
    fifoOk e q = true := by
  cases x with
  | mark => exact h
  | item i v => exact ((Bool.and_eq_true _ _).mp h).2

def endedAt (sups : List Sup) (i : Nat) : Bool :=
  match sups[i]? with
  | some a => a.pc.isEnded
  | none => true

theorem endedAt_set_le {sups : List Sup} {j : Nat} {a b : Sup} (h : sups[j]? = some a)
    (hb : b.pc.isEnded = true → a.pc.isEnded = true) :
    ∀ i, endedAt (sups.set j b) i = true → endedAt sups i = true := by
  intro i hi
  unfold endedAt at hi ⊢
  rw [List.getElem?_set] at hi
  by_cases hji : j = i
  · subst hji
    have hlt : j < sups.length := (List.getElem?_eq_some_iff.mp h).1
    rw [if_pos rfl, if_pos hlt] at hi
    rw [h]
    exact hb hi
  · rw [if_neg hji] at hi; exact hi

theorem endedAt_set_self {sups : List Sup} {j : Nat} {a b : Sup} (h : sups[j]? = some a)
    (hb : b.pc.isEnded = false) : endedAt (sups.set j b) j = false := by
  have hlt : j < sups.length := (List.getElem?_eq_some_iff.mp h).1
  unfold endedAt
  rw [List.getElem?_set, if_pos rfl, if_pos hlt]
  exact hb

theorem endedAt_of_all {sups : List Sup} (h : ∀ a ∈ sups, a.pc = .ended) (i : Nat) : endedAt sups i = true := by
  unfold endedAt
  cases hi : sups[i]? with
  | none => rfl
  | some b => exact congrArg SPc.isEnded (h b (List.mem_of_getElem? hi))

theorem fifo_set {sups : List Sup} {i : Nat} {a b : Sup} {q : List QItem}
    (h : sups[i]? = some a) (hb : b.pc.isEnded = true → a.pc.isEnded = true)
    (hf : fifoOk (endedAt sups) q = true) : fifoOk (endedAt (sups.set i b)) q = true :=
  fifoOk_mono (endedAt_set_le h hb) hf

theorem room_of_empty (c : Cfg) {s : State} (h : s.queue = []) : room c s = true := by
  simp only [room, h, List.length_nil, Bool.or_eq_true, beq_iff_eq, decide_eq_true_eq]
  omega

theorem exists_of_wsum_pos {α : Type} (f : α → Nat) : ∀ {l : List α}, 0 < wsum f l →
    ∃ (j : Nat) (a : α), l[j]? = some a ∧ 0 < f a := by
  intro l
  induction l with
  | nil => intro h; simp [wsum] at h
  | cons x l ih =>
    intro h
    simp only [wsum] at h
    by_cases hx : 0 < f x
    · exact ⟨0, x, by simp, hx⟩
    · obtain ⟨j, a, hj, ha⟩ := ih (by omega)
      exact ⟨j + 1, a, by simpa using hj, ha⟩

theorem exists_of_cntC_pos {q : CPc → Bool} {l : List Con} (h : 0 < cntC q l) :
    ∃ (j : Nat) (a : Con), l[j]? = some a ∧ q a.pc = true := by
  obtain ⟨j, a, hj, ha⟩ := exists_of_wsum_pos _ h
  refine ⟨j, a, hj, ?_⟩
  cases hq : q a.pc <;> simp [hq] at ha ⊢

end IterQueue
