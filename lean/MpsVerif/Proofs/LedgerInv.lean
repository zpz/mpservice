import MpsVerif.Proofs.LedgerStep
/-! Invariants of the server-ledger model: mutual exclusion and the capacity bound (`LockInv`; C06), ids never
    reused (`UidInv`; C02), requests conserved between ledger and pipeline (`ConsInv`; C02, C06), every caller
    answered from its own input and the gather thread alive (`ResInv`; C02, C07). -/
namespace Ledger

theorem remove_eq_eraseP (u : Nat) (l : List (Nat × Nat)) : remove u l = l.eraseP (fun e => e.1 = u) := by
  induction l with
  | nil => rfl
  | cons a l ih =>
    obtain ⟨u', r'⟩ := a
    by_cases h : u' = u
    · simp [remove, h]
    · simp [remove, h, ih]

theorem remove_length_le (u : Nat) (l : List (Nat × Nat)) : (remove u l).length ≤ l.length := by
  rw [remove_eq_eraseP]
  exact List.length_eraseP_le

theorem remove_keys_nodup {u : Nat} {l : List (Nat × Nat)} (hnd : (l.map Prod.fst).Nodup) :
    ((remove u l).map Prod.fst).Nodup := by
  rw [remove_eq_eraseP]
  exact hnd.sublist (List.eraseP_sublist.map _)

theorem mem_remove_iff {u : Nat} {e : Nat × Nat} {l : List (Nat × Nat)} (hnd : (l.map Prod.fst).Nodup) :
    e ∈ remove u l ↔ e ∈ l ∧ e.1 ≠ u := by
  induction l with
  | nil => simp [remove]
  | cons a l ih =>
    obtain ⟨u', r'⟩ := a
    rw [List.map_cons, List.nodup_cons] at hnd
    have hkey : e ∈ l → e.1 ≠ u' := fun he h => hnd.1 (List.mem_map.mpr ⟨e, he, h⟩)
    simp only [remove]
    split
    · rename_i h
      subst h
      constructor
      · exact fun he => ⟨List.mem_cons_of_mem _ he, hkey he⟩
      · rintro ⟨he, hne⟩
        rcases List.mem_cons.mp he with rfl | he
        · exact absurd rfl hne
        · exact he
    · rename_i h
      rw [List.mem_cons, List.mem_cons, ih hnd.2]
      constructor
      · rintro (rfl | ⟨he, hne⟩)
        · exact ⟨.inl rfl, h⟩
        · exact ⟨.inr he, hne⟩
      · rintro ⟨rfl | he, hne⟩
        · exact .inl rfl
        · exact .inr ⟨he, hne⟩

theorem mem_of_lookup {u r : Nat} {l : List (Nat × Nat)} (h : lookup u l = some r) : (u, r) ∈ l := by
  induction l with
  | nil => cases h
  | cons a l ih =>
    obtain ⟨u', r'⟩ := a
    simp only [lookup] at h
    split at h
    · rename_i he
      cases h
      exact he ▸ List.mem_cons_self
    · exact List.mem_cons_of_mem _ (ih h)

theorem lookup_of_mem {u r : Nat} {l : List (Nat × Nat)} (hnd : (l.map Prod.fst).Nodup) (h : (u, r) ∈ l) :
    lookup u l = some r := by
  induction l with
  | nil => cases h
  | cons a l ih =>
    obtain ⟨u', r'⟩ := a
    rw [List.map_cons, List.nodup_cons] at hnd
    simp only [lookup]
    rcases List.mem_cons.mp h with e | h
    · cases e
      rw [if_pos rfl]
    · rw [if_neg (fun e => hnd.1 (List.mem_map.mpr ⟨_, h, e.symm⟩)), ih hnd.2 h]

/-- the caller is inside the critical section of `_enqueue` -/
def CPc.inCrit : CPc → Bool
  | .inCS | .passed | .ledgered => true
  | _ => false

structure LockInv (c : Cfg) (s : State) : Prop where
  crit : ∀ r, (s.get r).pc.inCrit = true → s.lock = some (.caller r)
  notifier : s.npc = .has → s.lock = some .notifier
  room : ∀ r, (s.get r).pc = .passed → s.ledger.length < c.cap
  bound : s.ledger.length ≤ c.cap

def AllNew (callers : List Caller) : Prop := ∀ c ∈ callers, c.pc = .new ∧ c.uid = none ∧ c.fut = .pending

theorem init_get_new {callers : List Caller} (h : AllNew callers) (r : Nat) :
    ((init callers).get r).pc = .new ∧ ((init callers).get r).uid = none ∧ ((init callers).get r).fut = .pending := by
  simp only [State.get, init, List.getD_eq_getElem?_getD]
  cases hk : callers[r]? with
  | none => exact ⟨rfl, rfl, rfl⟩
  | some k => exact h k (List.mem_of_getElem? hk)

theorem lock_init (c : Cfg) (callers : List Caller) (h : AllNew callers) : LockInv c (init callers) where
  crit r hr := by
    rw [(init_get_new h r).1] at hr
    cases hr
  notifier := nofun
  room r hr := by
    rw [(init_get_new h r).1] at hr
    cases hr
  bound := Nat.zero_le _

namespace LockInv

theorem of_moved {c : Cfg} {s s' : State} {r : Nat} {k : Caller} (hlt : r < s.callers.length)
    (hc : s'.callers = s.callers.set r k)
    (crit : k.pc.inCrit = true → s'.lock = some (.caller r))
    (crit' : ∀ r', r ≠ r' → (s.get r').pc.inCrit = true → s'.lock = some (.caller r'))
    (notifier : s'.npc = .has → s'.lock = some .notifier)
    (room : k.pc = .passed → s'.ledger.length < c.cap)
    (room' : ∀ r', r ≠ r' → (s.get r').pc = .passed → s'.ledger.length < c.cap)
    (bound : s'.ledger.length ≤ c.cap) : LockInv c s' where
  crit r' h := by
    by_cases e : r = r'
    · subst e
      rw [get_self hc hlt] at h
      exact crit h
    · rw [get_other hc e] at h
      exact crit' r' e h
  notifier := notifier
  room r' h := by
    by_cases e : r = r'
    · subst e
      rw [get_self hc hlt] at h
      exact room h
    · rw [get_other hc e] at h
      exact room' r' e h
  bound := bound

end LockInv

theorem lock_step {c : Cfg} {s s' : State} {a : Act} (h : LockInv c s) (hs : Step c s a s') :
    LockInv c s' := by
  -- while the lock is free or with the notifier, nobody is in the critical section
  have free : ∀ {r P}, s.lock ≠ some (.caller r) → (s.get r).pc.inCrit = true → P :=
    fun hl hc => absurd (h.crit _ hc) hl
  -- the caller in the critical section is the only one
  have only : ∀ {r r'} {P : Prop}, (s.get r).pc.inCrit = true → r ≠ r' → (s.get r').pc.inCrit = true → P := by
    intro r r' P hr hne hr'
    have e := (h.crit r hr).symm.trans (h.crit r' hr')
    cases e
    exact absurd rfl hne
  have crit_of : ∀ {r p}, (s.get r).pc = p → p.inCrit = true → (s.get r).pc.inCrit = true :=
    fun hp hc => hp ▸ hc
  cases hs with
  | mint hlt _ =>
    exact .of_moved hlt rfl nofun (fun r' _ => h.crit r') h.notifier nofun (fun r' _ => h.room r') h.bound
  | timeoutWait hp | giveUp hp _ | expire hp _ | cancelPending hp _ | cancelLate hp _ | receive hp _ =>
    exact .of_moved (lt_of_pc hp nofun) rfl nofun (fun r' _ => h.crit r') h.notifier nofun
      (fun r' _ => h.room r') h.bound
  | acquireStart hl hp | acquireWoken hl hp =>
    exact .of_moved (lt_of_pc hp nofun) rfl (fun _ => rfl) (fun r' _ => free (hl ▸ nofun))
      (fun hn => nomatch hl.symm.trans (h.notifier hn)) nofun (fun r' _ => h.room r') h.bound
  | testPass hp hlen =>
    exact .of_moved (lt_of_pc hp nofun) rfl (fun _ => h.crit _ (crit_of hp rfl)) (fun r' _ => h.crit r') h.notifier
      (fun _ => hlen) (fun r' _ => h.room r') h.bound
  | insert hp _ =>
    have hin := crit_of hp rfl
    refine .of_moved (lt_of_pc hp nofun) rfl (fun _ => h.crit _ hin) (fun r' _ => h.crit r') h.notifier nofun
      (fun r' hne hp' => only hin hne (crit_of hp' rfl)) ?_
    have := h.room _ hp
    simp only [List.length_append, List.length_singleton]
    omega
  | reject hp _ _ | wait hp _ _ | noTime hp _ _ | enqueue hp _ =>
    have hin := crit_of hp rfl
    exact .of_moved (lt_of_pc hp nofun) rfl nofun (fun r' => only hin)
      (fun hn => nomatch (h.crit _ hin).symm.trans (h.notifier hn)) nofun (fun r' _ => h.room r') h.bound
  | popFound hg hq hl =>
    rename_i u src dst
    have := remove_length_le u s.ledger
    exact ⟨h.crit, h.notifier, fun r hr => Nat.lt_of_le_of_lt this (h.room r hr), Nat.le_trans this h.bound⟩
  | gsetOk hg hf =>
    rename_i dst src
    have hpc : ∀ r', ((s.set dst { s.get dst with fut := .resolved src }).get r').pc = (s.get r').pc := fun r' => by
      rw [get_set]
      split
      · rename_i e
        rw [← e.1]
      · rfl
    exact ⟨fun r hr => h.crit r (hpc r ▸ hr), h.notifier, fun r hr => h.room r (hpc r ▸ hr), h.bound⟩
  | ntake _ _ => exact ⟨h.crit, nofun, h.room, h.bound⟩
  | nacquire _ hl => exact ⟨fun r => free (hl ▸ nofun), fun _ => rfl, h.room, h.bound⟩
  | nnotify hn hp =>
    exact .of_moved (lt_of_pc hp nofun) rfl nofun (fun r' _ => free (h.notifier hn ▸ nofun)) nofun nofun
      (fun r' _ => h.room r') h.bound
  | nnone hn _ => exact ⟨fun r => free (h.notifier hn ▸ nofun), nofun, h.room, h.bound⟩
  | _ => exact ⟨h.crit, h.notifier, h.room, h.bound⟩

structure UidInv (s : State) : Prop where
  bound : ∀ r u, (s.get r).uid = some u → u < s.nextUid
  inj : ∀ r r' u, (s.get r).uid = some u → (s.get r').uid = some u → r = r'

theorem uid_init (callers : List Caller) (h : AllNew callers) : UidInv (init callers) where
  bound r u hu := by
    rw [(init_get_new h r).2.1] at hu
    cases hu
  inj r r' u hu := by
    rw [(init_get_new h r).2.1] at hu
    cases hu

namespace UidInv

theorem mint {s s' : State} {r : Nat} {k : Caller} (h : UidInv s) (hlt : r < s.callers.length)
    (hc : s'.callers = s.callers.set r k) (hk : k.uid = some s.nextUid) (hn : s'.nextUid = s.nextUid + 1) :
    UidInv s' := by
  have key : ∀ r', (s'.get r').uid = if r = r' then some s.nextUid else (s.get r').uid := by
    intro r'
    split
    · rename_i e
      rw [← e, get_self hc hlt, hk]
    · rename_i e
      rw [get_other hc e]
  constructor
  · intro r' u hu
    rw [key] at hu
    rw [hn]
    split at hu
    · cases hu
      exact Nat.lt_succ_self _
    · exact Nat.lt_succ_of_lt (h.bound r' u hu)
  · intro r1 r2 u h1 h2
    rw [key] at h1 h2
    split at h1
    · rename_i e1
      cases h1
      split at h2
      · rename_i e2
        rw [← e1, ← e2]
      · exact absurd (h.bound r2 _ h2) (Nat.lt_irrefl _)
    · split at h2
      · cases h2
        exact absurd (h.bound r1 _ h1) (Nat.lt_irrefl _)
      · exact h.inj r1 r2 u h1 h2

end UidInv

theorem uid_step {c : Cfg} {s s' : State} {a : Act} (h : UidInv s) (hs : Step c s a s') :
    UidInv s' := by
  by_cases hm : ∃ r, a = .mint r
  · obtain ⟨r, rfl⟩ := hm
    cases hs with
    | mint hlt _ => exact h.mint hlt rfl rfl rfl
  · have hm : ∀ r, a ≠ .mint r := fun r e => hm ⟨r, e⟩
    have fr := fun r => ((hs.uid r).resolve_right (fun e => hm r e.1)).symm
    constructor
    · intro r u hu
      rw [hs.nextUid hm]
      exact h.bound r u ((fr r).trans hu)
    · intro r r' u h1 h2
      exact h.inj r r' u ((fr r).trans h1) ((fr r').trans h2)

/-- The messages in the pipeline are `s.inflight ++ s.outq`. -/
structure ConsInv (s : State) : Prop where
  msg : ∀ u r, (u, r) ∈ s.inflight ++ s.outq → (s.get r).uid = some u ∧ (s.get r).pc.sent = true
  /-- the ledger holds the entries of the messages in the pipeline and of the callers between their `insert`
      and their `enqueue`, and nothing else -/
  entry : ∀ u r, (u, r) ∈ s.ledger ↔
    (u, r) ∈ s.inflight ++ s.outq ∨ (s.get r).pc = .ledgered ∧ (s.get r).uid = some u
  keys : (s.ledger.map Prod.fst).Nodup
  once : (s.inflight ++ s.outq).Nodup
  dropped : s.dropped = []

theorem cons_init (callers : List Caller) (h : AllNew callers) : ConsInv (init callers) where
  msg _ _ := nofun
  entry u r := by
    rw [(init_get_new h r).1]
    exact ⟨nofun, fun h => h.elim nofun (fun h => nomatch h.1)⟩
  keys := .nil
  once := .nil
  dropped := rfl

namespace ConsInv
variable {s s' : State}

theorem no_msg (h : ConsInv s) {u r : Nat} (hp : (s.get r).pc.sent = false) : (u, r) ∉ s.inflight ++ s.outq :=
  fun he => nomatch hp.symm.trans (h.msg u r he).2

/-- the gather thread finds the ledger entry of every response -/
theorem lookup_outq (h : ConsInv s) {u src : Nat} (hq : (u, src) ∈ s.outq) : lookup u s.ledger = some src :=
  lookup_of_mem h.keys ((h.entry u src).mpr (.inl (List.mem_append_right _ hq)))

theorem frame (h : ConsInv s) (hl : s'.ledger = s.ledger)
    (hm : (s'.inflight ++ s'.outq).Perm (s.inflight ++ s.outq)) (hd : s'.dropped = s.dropped)
    (hu : ∀ r, (s'.get r).uid = (s.get r).uid ∨ (s.get r).pc = .new)
    (hs : ∀ r, (s.get r).pc.sent = true → (s'.get r).pc.sent = true)
    (hg : ∀ r, (s'.get r).pc = .ledgered ↔ (s.get r).pc = .ledgered) : ConsInv s' where
  msg u r he := by
    obtain ⟨h1, h2⟩ := h.msg u r (hm.mem_iff.mp he)
    refine ⟨?_, hs r h2⟩
    rw [← h1]
    refine (hu r).resolve_right fun hn => ?_
    rw [hn] at h2
    cases h2
  entry u r := by
    rw [hl, hm.mem_iff, h.entry u r, hg]
    refine or_congr_right (and_congr_right fun hp => ?_)
    rw [(hu r).resolve_right fun hn => nomatch hn.symm.trans hp]
  keys := hl ▸ h.keys
  once := hm.nodup_iff.mpr h.once
  dropped := hd ▸ h.dropped

theorem insert (h : ConsInv s) (hi : UidInv s) {r u : Nat} (hp : (s.get r).pc = .passed)
    (hu : (s.get r).uid = some u) (hc : s'.callers = s.callers.set r { s.get r with pc := .ledgered })
    (hl : s'.ledger = s.ledger ++ [(u, r)]) (hin : s'.inflight = s.inflight) (ho : s'.outq = s.outq)
    (hd : s'.dropped = s.dropped) : ConsInv s' := by
  have hlt := lt_of_pc hp nofun
  have hmsg : ∀ {u'}, (u', r) ∉ s.inflight ++ s.outq := h.no_msg (congrArg CPc.sent hp)
  refine { msg := ?_, entry := ?_, keys := ?_, once := hin ▸ ho ▸ h.once, dropped := hd ▸ h.dropped }
  · intro u' r' he
    rw [hin, ho] at he
    rw [get_other hc (fun e => hmsg (e ▸ he))]
    exact h.msg u' r' he
  · intro u' r'
    rw [hl, hin, ho, List.mem_append, List.mem_singleton, h.entry u' r']
    by_cases hr : r = r'
    · subst hr
      rw [get_self hc hlt, hp, hu]
      simp [eq_comm]
    · rw [get_other hc hr]
      have : (u', r') ≠ (u, r) := fun e => hr (congrArg Prod.snd e).symm
      simp [this]
  · -- `u` is not yet a key of the ledger: its only owner is `r`, which has no entry
    rw [hl, List.map_append, List.nodup_append]
    refine ⟨h.keys, List.pairwise_singleton _ _, ?_⟩
    intro x hx y hy
    obtain ⟨⟨u', r'⟩, he, rfl⟩ := List.mem_map.mp hx
    cases List.mem_singleton.mp hy
    rintro rfl
    rcases (h.entry u' r').mp he with hm | hg
    · cases hi.inj _ _ _ (h.msg u' r' hm).1 hu
      exact hmsg hm
    · cases hi.inj _ _ _ hg.2 hu
      exact nomatch hp.symm.trans hg.1

theorem enqueue (h : ConsInv s) {r u : Nat} (hp : (s.get r).pc = .ledgered) (hu : (s.get r).uid = some u)
    (hc : s'.callers = s.callers.set r { s.get r with pc := .pending }) (hl : s'.ledger = s.ledger)
    (hin : s'.inflight = s.inflight ++ [(u, r)]) (ho : s'.outq = s.outq) (hd : s'.dropped = s.dropped) :
    ConsInv s' := by
  have hlt := lt_of_pc hp nofun
  have hperm : (s'.inflight ++ s'.outq).Perm ((u, r) :: (s.inflight ++ s.outq)) := by
    rw [hin, ho, List.append_assoc]
    exact List.perm_middle
  have hmsg : ∀ {u'}, (u', r) ∉ s.inflight ++ s.outq := h.no_msg (congrArg CPc.sent hp)
  refine { msg := ?_, entry := ?_, keys := hl ▸ h.keys, once := ?_, dropped := hd ▸ h.dropped }
  · intro u' r' he
    rcases List.mem_cons.mp (hperm.mem_iff.mp he) with e | he
    · cases e
      rw [get_self hc hlt]
      exact ⟨hu, rfl⟩
    · rw [get_other hc (fun e => hmsg (e ▸ he))]
      exact h.msg u' r' he
  · intro u' r'
    rw [hl, hperm.mem_iff, List.mem_cons, h.entry u' r']
    by_cases hr : r = r'
    · subst hr
      rw [get_self hc hlt, hp, hu]
      simp [eq_comm, or_comm]
    · rw [get_other hc hr]
      have : (u', r') ≠ (u, r) := fun e => hr (congrArg Prod.snd e).symm
      simp [this]
  · rw [hperm.nodup_iff, List.nodup_cons]
    exact ⟨hmsg, h.once⟩

theorem pop (h : ConsInv s) {u src : Nat} (hq : (u, src) ∈ s.outq) (hc : s'.callers = s.callers)
    (hl : s'.ledger = remove u s.ledger) (hin : s'.inflight = s.inflight) (ho : s'.outq = s.outq.erase (u, src))
    (hd : s'.dropped = s.dropped) : ConsInv s' := by
  have hperm : (s.inflight ++ s.outq).Perm ((u, src) :: (s'.inflight ++ s'.outq)) := by
    rw [hin, ho]
    exact ((List.perm_cons_erase hq).append_left _).trans List.perm_middle
  have hnd := hperm.nodup_iff.mp h.once
  rw [List.nodup_cons] at hnd
  have hmem : ∀ e, e ∈ s.inflight ++ s.outq ↔ e = (u, src) ∨ e ∈ s'.inflight ++ s'.outq := fun e => by
    rw [hperm.mem_iff, List.mem_cons]
  -- the entry with id `u` is `(u, src)`
  have hkey : ∀ r, (u, r) ∈ s.ledger → r = src := fun r he =>
    Option.some.inj ((lookup_of_mem h.keys he).symm.trans (h.lookup_outq hq))
  have hsent := (h.msg u src ((hmem _).mpr (.inl rfl))).2
  have hget := fun r => get_same s' s r hc
  refine { msg := ?_, entry := ?_, keys := hl ▸ remove_keys_nodup h.keys, once := hnd.2, dropped := hd ▸ h.dropped }
  · intro u' r' he
    rw [hget]
    exact h.msg u' r' ((hmem _).mpr (.inr he))
  · intro u' r'
    rw [hl, mem_remove_iff h.keys, hget, h.entry u' r', hmem]
    constructor
    · rintro ⟨(e | he) | hg, hne⟩
      · cases e
        exact absurd rfl hne
      · exact .inl he
      · exact .inr hg
    · intro he
      refine ⟨he.imp_left .inr, ?_⟩
      rintro rfl
      cases hkey r' ((h.entry u' r').mpr (he.imp_left fun he => (hmem _).mpr (.inr he)))
      rcases he with he | hg
      · exact hnd.1 he
      · rw [hg.1] at hsent
        cases hsent

theorem ledger_nil (h : ConsInv s) (hi : s.inflight = []) (ho : s.outq = [])
    (hl : ∀ r, (s.get r).pc ≠ .ledgered) : s.ledger = [] :=
  List.eq_nil_iff_forall_not_mem.mpr fun (u, r) he => by
    rcases (h.entry u r).mp he with hm | hg
    · rw [hi, ho] at hm
      cases hm
    · exact hl r hg.1

end ConsInv

theorem cons_step {c : Cfg} {s s' : State} {a : Act} (hu : UidInv s) (h : ConsInv s)
    (hs : Step c s a s') : ConsInv s' := by
  have fu := fun r => (hs.uid r).imp_right And.right
  have fs := hs.sent_mono
  have fl := hs.ledgered_iff
  cases hs with
  | insert hp hu' => exact h.insert hu hp hu' rfl rfl rfl rfl rfl
  | enqueue hp hu' => exact h.enqueue hp hu' rfl rfl rfl rfl rfl
  | emit hm =>
    refine h.frame rfl ?_ rfl fu fs (fun r => fl r nofun nofun)
    rw [← List.append_assoc]
    exact (List.perm_append_singleton _ _).trans ((List.perm_cons_erase hm).symm.append_right _)
  | popFound _ hq _ => exact h.pop hq rfl rfl rfl rfl rfl
  | popMissing _ hq hl => exact nomatch hl.symm.trans (h.lookup_outq hq)
  | _ => exact h.frame rfl (.refl _) rfl fu fs (fun r => fl r Act.noConfusion Act.noConfusion)

structure ResInv (c : Cfg) (s : State) : Prop where
  gather : ∀ dst src, s.gpc = .popped dst src ∨ s.gpc = .setting dst src → dst = src
  fut : ∀ r src, (s.get r).fut = .resolved src → src = r
  answer : ∀ r src, (s.get r).pc = .done (.answered src) → src = r
  alive : c.guardSet = true → s.gpc ≠ .dead

theorem res_init (c : Cfg) (callers : List Caller) (h : AllNew callers) : ResInv c (init callers) where
  gather _ _ h := h.elim nofun nofun
  fut r src hf := by
    rw [(init_get_new h r).2.2] at hf
    cases hf
  answer r src hp := by
    rw [(init_get_new h r).1] at hp
    cases hp
  alive _ := nofun

theorem res_step {c : Cfg} {s s' : State} {a : Act} (hk : ConsInv s) (h : ResInv c s)
    (hs : Step c s a s') : ResInv c s' := by
  have ffut := fun (hg : a ≠ .gset) r src hf => h.fut r src (hs.resolved hg r hf)
  have fans := fun r src hp => (hs.answered r hp).elim (h.answer r src) (h.fut r src)
  cases hs with
  | popFound _ hq hl =>
    refine ⟨fun d x hx => ?_, ffut Act.noConfusion, fans, fun _ => nofun⟩
    rcases hx with hx | hx
    · cases hx
      exact Option.some.inj (hl.symm.trans (hk.lookup_outq hq))
    · cases hx
  | popMissing hg _ _ => exact ⟨h.gather, ffut Act.noConfusion, fans, h.alive⟩
  | gcheckCancelled _ _ => exact ⟨fun _ _ hx => hx.elim nofun nofun, ffut Act.noConfusion, fans, fun _ => nofun⟩
  | gcheckLive hg _ =>
    refine ⟨fun d x hx => ?_, ffut Act.noConfusion, fans, fun _ => nofun⟩
    rcases hx with hx | hx
    · cases hx
    · cases hx
      exact h.gather _ _ (.inl hg)
  | gsetOk hg hf =>
    rename_i dst src
    refine ⟨fun _ _ hx => hx.elim nofun nofun, fun r x hx => ?_, fans, fun _ => nofun⟩
    have hx : ((s.set dst { s.get dst with fut := .resolved src }).get r).fut = .resolved x := hx
    rw [get_set] at hx
    split at hx
    · rename_i e
      cases hx
      exact (h.gather _ _ (.inr hg)).symm.trans e.1
    · exact h.fut r x hx
  | gsetSkip _ _ _ => exact ⟨fun _ _ hx => hx.elim nofun nofun, h.fut, h.answer, fun _ => nofun⟩
  | gsetDie _ _ hgs =>
    exact ⟨fun _ _ hx => hx.elim nofun nofun, h.fut, h.answer, fun hgt => nomatch hgs.symm.trans hgt⟩
  | _ => exact ⟨h.gather, ffut Act.noConfusion, fans, h.alive⟩

structure AllInv (c : Cfg) (s : State) : Prop where
  lock : LockInv c s
  uid : UidInv s
  cons : ConsInv s
  res : ResInv c s

theorem all_init (c : Cfg) (callers : List Caller) (h : AllNew callers) : AllInv c (init callers) :=
  ⟨lock_init c callers h, uid_init callers h, cons_init callers h, res_init c callers h⟩

theorem all_step {c : Cfg} {s s' : State} {a : Act} (h : AllInv c s) (hs : Step c s a s') :
    AllInv c s' :=
  ⟨lock_step h.lock hs, uid_step h.uid hs, cons_step h.uid h.cons hs, res_step h.cons h.res hs⟩

theorem all_reachable (c : Cfg) (callers : List Caller) (h : AllNew callers) {s : State}
    (hr : Reachable c callers s) : AllInv c s :=
  reachable_inv c callers (all_init c callers h) all_step hr

end Ledger
