import MpsVerif.Proofs.LifecycleStep
/-! What the proofs ask of a network (`WF`; `Safe` for pipe-backed queues), as propositions, and that the executable
checks `Net.wf` and `Net.safe` imply them. -/
namespace Lifecycle

/-- a sentinel is certain to be on its way to `c` once the instructions `pre` have been executed -/
def Fed (net : Net) (c : Nat) (pre : List Instr) : Prop :=
  ∃ i ∈ pre, i = Instr.put c ∨ ∃ (m : Nat) (md : NodeDesc), i = Instr.join m ∧ net.nodes[m]? = some md ∧ c ∈ md.souts

structure WF (net : Net) : Prop where
  weight : ∀ (n : Nat) (nd : NodeDesc), net.nodes[n]? = some nd → ∀ c ∈ nd.ins, ∀ plan ∈ nd.plans, 1 + planCost net plan ≤ wOf net c
  joined : ∀ n, n < net.nodes.length → Instr.join n ∈ net.script
  fed : ∀ (n : Nat) (nd : NodeDesc), net.nodes[n]? = some nd → ∀ pre rest, net.script = pre ++ Instr.join n :: rest →
          (nd.all = false → ∃ c ∈ nd.ins, Fed net c pre) ∧ (nd.all = true → ∀ c ∈ nd.ins, Fed net c pre)
  allOk : ∀ (n : Nat) (nd : NodeDesc), net.nodes[n]? = some nd → nd.all = true → nd.rebro = false ∧ nd.ins ≠ []
  plansNe : ∀ (n : Nat) (nd : NodeDesc), net.nodes[n]? = some nd → nd.plans ≠ []
  uniq : ∀ (n : Nat) (nd : NodeDesc), net.nodes[n]? = some nd → nd.rebro = false → ∀ c ∈ nd.ins, ∀ (m : Nat) (md : NodeDesc),
          net.nodes[m]? = some md → c ∈ md.ins → m = n
  insRange : ∀ (n : Nat) (nd : NodeDesc), net.nodes[n]? = some nd → ∀ c ∈ nd.ins, c < net.caps.length
  clear : Instr.clear ∈ net.script
  joinRange : ∀ n, Instr.join n ∈ net.script → n < net.nodes.length

theorem fed_of_fedBefore (net : Net) (c p : Nat) (h : fedBefore net c p = true) : Fed net c (net.script.take p) := by
  simp only [fedBefore, List.any_eq_true] at h
  obtain ⟨i, hi, hm⟩ := h
  refine ⟨i, hi, ?_⟩
  cases i with
  | put c' => left; simp at hm; rw [hm]
  | clear => simp at hm
  | join m =>
    right
    simp only at hm
    cases hmd : net.nodes[m]? with
    | none => rw [hmd] at hm; simp at hm
    | some md =>
      rw [hmd] at hm
      exact ⟨m, md, rfl, hmd, by simpa using hm⟩

/-- the Prop-level content of `nodeOk` -/
structure NodeOk (net : Net) (n : Nat) (nd : NodeDesc) : Prop where
  weight : ∀ (x : Nat), x ∈ nd.ins → ∀ (x_1 : List Nat), x_1 ∈ nd.plans → 1 + planCost net x_1 ≤ wOf net x
  joined : Instr.join n ∈ net.script
  fed : ∀ (x : Nat), x < net.script.length → net.script[x]? ≠ some (Instr.join n) ∨
          (if nd.all = true then nd.ins.all fun c => fedBefore net c x else nd.ins.any fun c => fedBefore net c x) = true
  plansNe : nd.plans.isEmpty = false
  allOk : nd.all = false ∨ nd.rebro = false ∧ nd.ins.isEmpty = false
  uniq : nd.rebro = true ∨ ∀ (x : Nat), x ∈ nd.ins → ∀ (x_1 : Nat), x_1 < net.nodes.length →
          x_1 = n ∨ (match net.nodes[x_1]? with
                      | some md => !md.ins.contains x
                      | none => true) = true
  insRange : ∀ (x : Nat), x ∈ nd.ins → x < net.caps.length

theorem nodeOk_spec (net : Net) (n : Nat) (nd : NodeDesc) (h : nodeOk net n nd = true) : NodeOk net n nd := by
  simp only [nodeOk, Bool.and_eq_true, List.all_eq_true, List.mem_range, decide_eq_true_eq, Bool.or_eq_true,
    List.contains_iff_mem, bne_iff_ne, Bool.not_eq_true'] at h
  exact ⟨h.1.1.1.1.1.1.1.1, h.1.1.1.1.1.1.1.2, h.1.1.1.1.1.1.2, h.1.1.1.1.1.2, h.1.1.1.1.2, h.1.1.1.2, h.1.1.2⟩

theorem wf_sound (net : Net) (h : net.wf = true) : WF net := by
  simp only [Net.wf, Bool.and_eq_true, List.all_eq_true, List.mem_range, decide_eq_true_eq, List.contains_iff_mem] at h
  obtain ⟨⟨⟨⟨hnodes, hclear⟩, hscr⟩, _⟩, _⟩ := h
  have hnode : ∀ (n : Nat) (nd : NodeDesc), net.nodes[n]? = some nd → NodeOk net n nd := by
    intro n nd hnd
    have := hnodes n (lt_of_getElem? hnd)
    rw [hnd] at this
    exact nodeOk_spec net n nd this
  refine {
    weight := fun n nd hnd => (hnode n nd hnd).weight
    joined := fun n hn => (hnode n _ (List.getElem?_eq_getElem hn)).joined
    fed := fun n nd hnd pre rest hs => ?_
    allOk := fun n nd hnd ha => ?_
    plansNe := fun n nd hnd he => ?_
    uniq := fun n nd hnd hrb c hc m md hmd hcm => ?_
    insRange := fun n nd hnd => (hnode n nd hnd).insRange
    clear := hclear
    joinRange := fun n hn => by simpa using hscr (.join n) hn }
  · have hp : pre.length < net.script.length := by rw [hs]; simp
    have hget : net.script[pre.length]? = some (Instr.join n) := by rw [hs]; simp
    have htake : net.script.take pre.length = pre := by rw [hs]; simp
    rw [← htake]
    rcases (hnode n nd hnd).fed pre.length hp with h | h
    · exact absurd hget h
    · refine ⟨fun ha => ?_, fun ha c hc => ?_⟩
      · simp only [ha, Bool.false_eq_true, if_false, List.any_eq_true] at h
        obtain ⟨c, hc, hf⟩ := h
        exact ⟨c, hc, fed_of_fedBefore net c _ hf⟩
      · simp only [ha, if_true, List.all_eq_true] at h
        exact fed_of_fedBefore net c _ (h c hc)
  · rcases (hnode n nd hnd).allOk with h | h
    · rw [ha] at h; cases h
    · refine ⟨h.1, fun he => ?_⟩
      rw [he] at h; simp at h
  · have := (hnode n nd hnd).plansNe
    rw [he] at this; simp at this
  · rcases (hnode n nd hnd).uniq with h | h
    · rw [hrb] at h; cases h
    · rcases h c hc m (lt_of_getElem? hmd) with h | h
      · exact h
      · rw [hmd] at h; simp at h; exact absurd hcm h

def Writes (nd : NodeDesc) (c : Nat) : Prop := (∃ plan ∈ nd.plans, c ∈ plan) ∨ c ∈ nd.souts

theorem writes_iff (nd : NodeDesc) (c : Nat) : writes nd c = true ↔ Writes nd c := by
  simp [writes, Writes, List.any_eq_true]

structure Safe (net : Net) : Prop where
  capPos : ∀ c K, capOf net c = some K → 1 ≤ K
  reader : ∀ c K, capOf net c = some K →
    ∃ (r : Nat) (nd : NodeDesc), net.nodes[r]? = some nd ∧ c ∈ nd.ins ∧ (nd.ins = [c] ∨ nd.all = true)
  writer : ∀ c K, capOf net c = some K → ∀ (m m' : Nat) (md md' : NodeDesc), net.nodes[m]? = some md →
    net.nodes[m']? = some md' → Writes md c → Writes md' c → m = m'
  mainAfter : ∀ c K, capOf net c = some K → ∀ (m : Nat) (md : NodeDesc) pre rest, net.nodes[m]? = some md →
    Writes md c → net.script = pre ++ Instr.put c :: rest → Instr.join m ∈ pre

theorem capOf_lt (net : Net) (c K : Nat) (h : capOf net c = some K) : c < net.caps.length := by
  rcases Nat.lt_or_ge c net.caps.length with h1 | h1
  · exact h1
  · simp [capOf, List.getElem?_eq_none h1] at h

theorem safe_sound (net : Net) (h : net.safe = true) : Safe net := by
  refine ⟨fun c K hk => ?_, fun c K hk => ?_, fun c K hk m m' md md' hmd hmd' hw hw' => ?_,
    fun c K hk m md pre rest hmd hw hs => ?_⟩
  all_goals
    have hc := List.all_eq_true.mp h c (List.mem_range.mpr (capOf_lt net c K hk))
    rw [hk] at hc
    simp only [Bool.and_eq_true, decide_eq_true_eq] at hc
    obtain ⟨⟨⟨h1, h2⟩, h3⟩, h4⟩ := hc
  · exact h1
  · obtain ⟨r, _, h2⟩ := List.any_eq_true.mp h2
    cases hnd : net.nodes[r]? with
    | none => rw [hnd] at h2; cases h2
    | some nd =>
      rw [hnd] at h2
      simp only [Bool.and_eq_true, List.contains_iff_mem, Bool.or_eq_true, beq_iff_eq] at h2
      exact ⟨r, nd, hnd, h2⟩
  · have := List.all_eq_true.mp (List.all_eq_true.mp h3 m (List.mem_range.mpr (lt_of_getElem? hmd))) m'
      (List.mem_range.mpr (lt_of_getElem? hmd'))
    rw [hmd, hmd'] at this
    simpa [(writes_iff md c).mpr hw, (writes_iff md' c).mpr hw'] using this
  · have := List.all_eq_true.mp h4 m (List.mem_range.mpr (lt_of_getElem? hmd))
    rw [hmd] at this
    simp only [(writes_iff md c).mpr hw, Bool.not_true, Bool.false_or] at this
    have hget : net.script[pre.length]? = some (Instr.put c) := by rw [hs]; simp
    have := List.all_eq_true.mp this pre.length (List.mem_range.mpr (lt_of_getElem? hget))
    rw [hget, hs] at this
    simpa using this

end Lifecycle
