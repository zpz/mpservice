import MpsVerif.Model.Ledger
import MpsVerif.Core.Sys
/-! Relational presentation of `Ledger.step` and its soundness; what one step does to the record of one caller
    (`Edge`, `Step.get`), from which every fact about a single caller's `pc`, `uid` and `fut` follows. -/
namespace Ledger

inductive Step (c : Cfg) : State → Act → State → Prop where
  | mint {s r} : r < s.callers.length → (s.get r).pc = .new →
      Step c s (.mint r) { (s.set r { s.get r with pc := .start, uid := some s.nextUid }) with nextUid := s.nextUid + 1 }
  | acquireStart {s r} : s.lock = none → (s.get r).pc = .start →
      Step c s (.acquire r) { (s.set r { s.get r with pc := .inCS }) with lock := some (.caller r) }
  | acquireWoken {s r} : s.lock = none → (s.get r).pc = .woken →
      Step c s (.acquire r) { (s.set r { s.get r with pc := .inCS }) with lock := some (.caller r) }
  | testPass {s r} : (s.get r).pc = .inCS → s.ledger.length < c.cap →
      Step c s (.testPass r) (s.set r { s.get r with pc := .passed })
  | reject {s r} : (s.get r).pc = .inCS → c.cap ≤ s.ledger.length → (s.get r).bp = true →
      Step c s (.reject r) { (s.set r { s.get r with pc := .done .full }) with lock := none }
  | wait {s r} : (s.get r).pc = .inCS → c.cap ≤ s.ledger.length → (s.get r).bp = false →
      Step c s (.wait r) { (s.set r { s.get r with pc := .waiting }) with lock := none }
  | noTime {s r} : (s.get r).pc = .inCS → c.cap ≤ s.ledger.length → (s.get r).bp = false →
      Step c s (.noTime r) { (s.set r { s.get r with pc := .done .full }) with lock := none }
  | insert {s r u} : (s.get r).pc = .passed → (s.get r).uid = some u →
      Step c s (.insert r) { (s.set r { s.get r with pc := .ledgered }) with ledger := s.ledger ++ [(u, r)] }
  | enqueue {s r u} : (s.get r).pc = .ledgered → (s.get r).uid = some u →
      Step c s (.enqueue r)
        { (s.set r { s.get r with pc := .pending }) with inflight := s.inflight ++ [(u, r)], lock := none }
  | timeoutWait {s r} : (s.get r).pc = .waiting →
      Step c s (.timeoutWait r) (s.set r { s.get r with pc := .expired })
  | giveUp {s r} : (s.get r).pc = .expired → s.lock = none →
      Step c s (.giveUp r) (s.set r { s.get r with pc := .done .full })
  | expire {s r} : (s.get r).pc = .pending → (s.get r).fut = .pending →
      Step c s (.expire r) (s.set r { s.get r with pc := .cancelling })
  | cancelPending {s r} : (s.get r).pc = .cancelling → (s.get r).fut = .pending →
      Step c s (.cancel r) (s.set r { s.get r with pc := .done .timeout, fut := .cancelled })
  | cancelLate {s r} : (s.get r).pc = .cancelling → (s.get r).fut ≠ .pending →
      Step c s (.cancel r) (s.set r { s.get r with pc := .done .timeout })
  | receive {s r src} : (s.get r).pc = .pending → (s.get r).fut = .resolved src →
      Step c s (.receive r) (s.set r { s.get r with pc := .done (.answered src) })
  | emit {s u r} : (u, r) ∈ s.inflight →
      Step c s (.emit u r) { s with inflight := s.inflight.erase (u, r), outq := s.outq ++ [(u, r)] }
  | popFound {s u src dst} : s.gpc = .idle → (u, src) ∈ s.outq → lookup u s.ledger = some dst →
      Step c s (.pop u src) { s with outq := s.outq.erase (u, src), ledger := remove u s.ledger, gpc := .popped dst src }
  | popMissing {s u src} : s.gpc = .idle → (u, src) ∈ s.outq → lookup u s.ledger = none →
      Step c s (.pop u src) { s with outq := s.outq.erase (u, src), dropped := (u, src) :: s.dropped }
  | gcheckCancelled {s dst src} : s.gpc = .popped dst src → (s.get dst).fut = .cancelled →
      Step c s .gcheck { s with gpc := .idle, qn := s.qn + 1 }
  | gcheckLive {s dst src} : s.gpc = .popped dst src → (s.get dst).fut ≠ .cancelled →
      Step c s .gcheck { s with gpc := .setting dst src }
  | gsetOk {s dst src} : s.gpc = .setting dst src → (s.get dst).fut = .pending →
      Step c s .gset { (s.set dst { s.get dst with fut := .resolved src }) with gpc := .idle, qn := s.qn + 1 }
  | gsetSkip {s dst src} : s.gpc = .setting dst src → (s.get dst).fut ≠ .pending → c.guardSet = true →
      Step c s .gset { s with gpc := .idle, qn := s.qn + 1 }
  | gsetDie {s dst src} : s.gpc = .setting dst src → (s.get dst).fut ≠ .pending → c.guardSet = false →
      Step c s .gset { s with gpc := .dead }
  | ntake {s} : s.npc = .idle → 0 < s.qn → Step c s .ntake { s with npc := .want, qn := s.qn - 1 }
  | nacquire {s} : s.npc = .want → s.lock = none →
      Step c s .nacquire { s with npc := .has, lock := some .notifier }
  | nnotify {s r} : s.npc = .has → (s.get r).pc = .waiting →
      Step c s (.nnotify r) { (s.set r { s.get r with pc := .woken }) with npc := .idle, lock := none }
  | nnone {s} : s.npc = .has → (∀ r < s.callers.length, (s.get r).pc ≠ .waiting) →
      Step c s .nnone { s with npc := .idle, lock := none }

theorem step_sound (c : Cfg) (s s' : State) (a : Act) (h : step c s a = some s') : Step c s a s' := by
  revert h
  fun_cases step c s a <;> intro h <;> cases h
  next hg => exact .mint hg.1 hg.2
  next hl hp => exact .acquireStart hl hp
  next hl hp => exact .acquireWoken hl hp
  next hg => exact .testPass hg.1 hg.2
  next hg => exact .reject hg.1 hg.2.1 hg.2.2
  next hg => exact .wait hg.1 hg.2.1 hg.2.2
  next hg => exact .noTime hg.1 hg.2.1 hg.2.2
  next hu hp => exact .insert hp hu
  next hu hp => exact .enqueue hp hu
  next hp => exact .timeoutWait hp
  next hg => exact .giveUp hg.1 hg.2
  next hg => exact .expire hg.1 hg.2
  next hp hf => exact .cancelPending hp hf
  next hp hf => exact .cancelLate hp hf
  next hf hp => exact .receive hp hf
  next hm => exact .emit hm
  next hg _ hl => exact .popFound hg.1 hg.2 hl
  next hg hl => exact .popMissing hg.1 hg.2 hl
  next hg hf => exact .gcheckCancelled hg hf
  next hg hf => exact .gcheckLive hg hf
  next hg hf => exact .gsetOk hg hf
  next hg hs hf => exact .gsetSkip hg hf hs
  next hg hs hf => exact .gsetDie hg hf (Bool.eq_false_iff.mpr hs)
  next hg => exact .ntake hg.1 hg.2
  next hg => exact .nacquire hg.1 hg.2
  next hg => exact .nnotify hg.1 hg.2
  next hg => exact .nnone hg.1 hg.2

def Reachable (c : Cfg) (callers : List Caller) (s : State) : Prop :=
  Core.Reach (step c) (init callers) s

theorem reachable_inv (c : Cfg) (callers : List Caller) {Inv : State → Prop} (h0 : Inv (init callers))
    (hstep : ∀ {s a s'}, Inv s → Step c s a s' → Inv s') {s : State} (hr : Reachable c callers s) : Inv s :=
  Core.invariant_reach (fun s a s' hi hs => hstep hi (step_sound c s s' a hs)) h0 hr

theorem get_set (s : State) (r r' : Nat) (c : Caller) :
    (s.set r c).get r' = if r = r' ∧ r < s.callers.length then c else s.get r' := by
  simp only [State.get, State.set, List.getD_eq_getElem?_getD, List.getElem?_set]
  by_cases h : r = r'
  · subst h
    by_cases h2 : r < s.callers.length
    · simp [h2]
    · simp [h2]
  · simp [h]

theorem get_default (s : State) (r : Nat) (h : s.callers.length ≤ r) : s.get r = {} := by
  simp [State.get, List.getD_eq_getElem?_getD, List.getElem?_eq_none h]

theorem lt_of_pc {s : State} {r : Nat} {p : CPc} (hp : (s.get r).pc = p) (hn : p ≠ .new) :
    r < s.callers.length := by
  apply Classical.byContradiction
  intro hge
  rw [get_default s r (by omega)] at hp
  exact hn hp.symm

@[simp] theorem set_length (s : State) (r : Nat) (c : Caller) : (s.set r c).callers.length = s.callers.length := by
  simp [State.set]

theorem get_same (s' s : State) (r' : Nat) (hc : s'.callers = s.callers) : s'.get r' = s.get r' := by
  unfold State.get
  rw [hc]

theorem get_self {s s' : State} {r : Nat} {k : Caller} (hc : s'.callers = s.callers.set r k)
    (hlt : r < s.callers.length) : s'.get r = k := by
  rw [get_same s' (s.set r k) r hc, get_set, if_pos ⟨rfl, hlt⟩]

theorem get_other {s s' : State} {r r' : Nat} {k : Caller} (hc : s'.callers = s.callers.set r k)
    (hne : r ≠ r') : s'.get r' = s.get r' := by
  rw [get_same s' (s.set r k) r' hc, get_set, if_neg (fun h => hne h.1)]

/-- `Edge a r k k'`: action `a` takes the record of caller `r` from `k` to `k'`.  These are the edges of a
    caller's control-flow graph (`_enqueue`, then `_wait_for_result`), and the one edge by which the gather
    thread resolves the caller's future. -/
inductive Edge : Act → Nat → Caller → Caller → Prop where
  | mint {r k u} : k.pc = .new → Edge (.mint r) r k { k with pc := .start, uid := some u }
  | acquireStart {r k} : k.pc = .start → Edge (.acquire r) r k { k with pc := .inCS }
  | acquireWoken {r k} : k.pc = .woken → Edge (.acquire r) r k { k with pc := .inCS }
  | testPass {r k} : k.pc = .inCS → Edge (.testPass r) r k { k with pc := .passed }
  | reject {r k} : k.pc = .inCS → Edge (.reject r) r k { k with pc := .done .full }
  | wait {r k} : k.pc = .inCS → Edge (.wait r) r k { k with pc := .waiting }
  | noTime {r k} : k.pc = .inCS → Edge (.noTime r) r k { k with pc := .done .full }
  | insert {r k} : k.pc = .passed → Edge (.insert r) r k { k with pc := .ledgered }
  | enqueue {r k} : k.pc = .ledgered → Edge (.enqueue r) r k { k with pc := .pending }
  | timeoutWait {r k} : k.pc = .waiting → Edge (.timeoutWait r) r k { k with pc := .expired }
  | giveUp {r k} : k.pc = .expired → Edge (.giveUp r) r k { k with pc := .done .full }
  | expire {r k} : k.pc = .pending → Edge (.expire r) r k { k with pc := .cancelling }
  | cancelPending {r k} : k.pc = .cancelling → k.fut = .pending →
      Edge (.cancel r) r k { k with pc := .done .timeout, fut := .cancelled }
  | cancelLate {r k} : k.pc = .cancelling → Edge (.cancel r) r k { k with pc := .done .timeout }
  | receive {r k src} : k.pc = .pending → k.fut = .resolved src →
      Edge (.receive r) r k { k with pc := .done (.answered src) }
  | notify {r k} : k.pc = .waiting → Edge (.nnotify r) r k { k with pc := .woken }
  | resolve {r k src} : k.fut = .pending → Edge .gset r k { k with fut := .resolved src }

theorem moved {s s' : State} {a : Act} {r : Nat} {k : Caller} (hc : s'.callers = s.callers.set r k)
    (e : Edge a r (s.get r) k) (r' : Nat) :
    s'.get r' = s.get r' ∨ Edge a r' (s.get r') (s'.get r') := by
  have h := get_set s r r' k
  rw [← get_same s' (s.set r k) r' hc] at h
  split at h
  · rename_i hr
    obtain ⟨rfl, _⟩ := hr
    exact .inr (h ▸ e)
  · exact .inl h

/-- the request's input has been handed to the pipeline (or the call is over) -/
def CPc.sent : CPc → Bool
  | .pending | .cancelling | .done _ => true
  | _ => false

namespace Edge
variable {a : Act} {r : Nat} {k k' : Caller}

theorem uid (h : Edge a r k k') : k'.uid = k.uid ∨ a = .mint r ∧ k.pc = .new := by
  cases h with
  | mint hp => exact .inr ⟨rfl, hp⟩
  | _ => exact .inl rfl

theorem sent (h : Edge a r k k') (hs : k.pc.sent = true) : k'.pc.sent = true := by
  cases h with
  | resolve => exact hs
  | mint hp | acquireStart hp | acquireWoken hp | testPass hp | wait hp | insert hp | timeoutWait hp | notify hp =>
    rw [hp] at hs
    cases hs
  | _ => rfl

theorem ledgered (h : Edge a r k k') (hi : a ≠ .insert r) (he : a ≠ .enqueue r) :
    k'.pc = .ledgered ↔ k.pc = .ledgered := by
  cases h with
  | insert => exact absurd rfl hi
  | enqueue => exact absurd rfl he
  | resolve => exact .rfl
  | _ hp =>
    rw [hp]
    exact ⟨nofun, nofun⟩

theorem done (h : Edge a r k k') {o : Outcome} (hd : k.pc = .done o) : k'.pc = .done o := by
  cases h with
  | resolve => exact hd
  | _ hp =>
    rw [hp] at hd
    cases hd

theorem cancelled (h : Edge a r k k') (hf : k.fut = .cancelled) : k'.fut = .cancelled := by
  cases h with
  | cancelPending => rfl
  | resolve hp =>
    rw [hp] at hf
    cases hf
  | _ => exact hf

theorem resolved (h : Edge a r k k') (hg : a ≠ .gset) {src : Nat} (hf : k'.fut = .resolved src) :
    k.fut = .resolved src := by
  cases h with
  | resolve => exact absurd rfl hg
  | cancelPending => cases hf
  | _ => exact hf

theorem answered (h : Edge a r k k') {src : Nat} (hd : k'.pc = .done (.answered src)) :
    k.pc = .done (.answered src) ∨ k.fut = .resolved src := by
  cases h with
  | resolve => exact .inl hd
  | receive _ hf =>
    cases hd
    exact .inr hf
  | _ => cases hd

end Edge

namespace Step
variable {c : Cfg} {s s' : State} {a : Act}

theorem get (hs : Step c s a s') (r' : Nat) :
    s'.get r' = s.get r' ∨ Edge a r' (s.get r') (s'.get r') := by
  cases hs with
  | mint _ hp => exact moved rfl (.mint hp) r'
  | acquireStart _ hp => exact moved rfl (.acquireStart hp) r'
  | acquireWoken _ hp => exact moved rfl (.acquireWoken hp) r'
  | testPass hp _ => exact moved rfl (.testPass hp) r'
  | reject hp _ _ => exact moved rfl (.reject hp) r'
  | wait hp _ _ => exact moved rfl (.wait hp) r'
  | noTime hp _ _ => exact moved rfl (.noTime hp) r'
  | insert hp _ => exact moved rfl (.insert hp) r'
  | enqueue hp _ => exact moved rfl (.enqueue hp) r'
  | timeoutWait hp => exact moved rfl (.timeoutWait hp) r'
  | giveUp hp _ => exact moved rfl (.giveUp hp) r'
  | expire hp _ => exact moved rfl (.expire hp) r'
  | cancelPending hp hf => exact moved rfl (.cancelPending hp hf) r'
  | cancelLate hp _ => exact moved rfl (.cancelLate hp) r'
  | receive hp hf => exact moved rfl (.receive hp hf) r'
  | nnotify _ hp => exact moved rfl (.notify hp) r'
  | gsetOk _ hf => exact moved rfl (.resolve hf) r'
  | _ => exact .inl rfl

theorem uid (hs : Step c s a s') (r' : Nat) :
    (s'.get r').uid = (s.get r').uid ∨ a = .mint r' ∧ (s.get r').pc = .new :=
  (hs.get r').elim (fun e => .inl (e ▸ rfl)) Edge.uid

theorem nextUid (hs : Step c s a s') (hm : ∀ r, a ≠ .mint r) : s'.nextUid = s.nextUid := by
  cases hs with
  | mint => exact absurd rfl (hm _)
  | _ => rfl

theorem sent_mono (hs : Step c s a s') (r' : Nat) (h : (s.get r').pc.sent = true) :
    (s'.get r').pc.sent = true :=
  (hs.get r').elim (fun e => e ▸ h) (fun e => e.sent h)

theorem ledgered_iff (hs : Step c s a s') (r' : Nat) (hi : a ≠ .insert r') (he : a ≠ .enqueue r') :
    (s'.get r').pc = .ledgered ↔ (s.get r').pc = .ledgered :=
  (hs.get r').elim (fun e => e ▸ .rfl) (fun e => e.ledgered hi he)

theorem done_stays (hs : Step c s a s') (r' : Nat) {o : Outcome} (h : (s.get r').pc = .done o) :
    (s'.get r').pc = .done o :=
  (hs.get r').elim (fun e => e ▸ h) (fun e => e.done h)

theorem cancelled_stays (hs : Step c s a s') (r' : Nat) (h : (s.get r').fut = .cancelled) :
    (s'.get r').fut = .cancelled :=
  (hs.get r').elim (fun e => e ▸ h) (fun e => e.cancelled h)

theorem resolved (hs : Step c s a s') (hg : a ≠ .gset) (r' : Nat) {src : Nat}
    (h : (s'.get r').fut = .resolved src) : (s.get r').fut = .resolved src :=
  (hs.get r').elim (fun e => e ▸ h) (fun e => e.resolved hg h)

theorem answered (hs : Step c s a s') (r' : Nat) {src : Nat} (h : (s'.get r').pc = .done (.answered src)) :
    (s.get r').pc = .done (.answered src) ∨ (s.get r').fut = .resolved src :=
  (hs.get r').elim (fun e => .inl (e ▸ h)) (fun e => e.answered h)

end Step

end Ledger
