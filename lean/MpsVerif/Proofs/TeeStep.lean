import MpsVerif.Model.Tee
import MpsVerif.Core.Sys
/-! Relational presentation of `Tee.step`: one constructor per enabled case. -/
namespace Tee

inductive Step (c : Cfg) : State → Act → State → Prop where
  | call {s f} : f < c.n → (s.forks f).pc = .idle →
      Step c s ⟨f, .call⟩ (setFork s f { s.forks f with pc := if (s.forks f).cur = none then .chkHead else .wLoop })
  | hgetChk {s f} : f < c.n → (s.forks f).pc = .chkHead →
      Step c s ⟨f, .hget⟩ (setFork s f { s.forks f with
        pc := if s.linked = 0 then .hLoop else if (s.forks f).st = false then .hNext else .retStop })
  | hgetLoop {s f} : f < c.n → (s.forks f).pc = .hLoop →
      Step c s ⟨f, .hget⟩ (setFork s f { s.forks f with pc := if s.linked = 0 then .hAcq else .hNext })
  | hgetLocked {s f} : f < c.n → (s.forks f).pc = .hChk →
      Step c s ⟨f, .hget⟩ (setFork s f { s.forks f with pc := if s.linked = 0 then .hPull else .hRel })
  | hgetNext {s f} : f < c.n → 0 < s.linked → (s.forks f).pc = .hNext →
      Step c s ⟨f, .hget⟩ (setFork s f { s.forks f with pc := .wLoop, cur := some 0 })
  | acqOkH {s f} : f < c.n → s.lock = none → (s.forks f).pc = .hAcq →
      Step c s ⟨f, .acqOk⟩ { setFork s f { s.forks f with pc := .hChk } with lock := some f }
  | acqOkW {s f} : f < c.n → s.lock = none → (s.forks f).pc = .wAcq →
      Step c s ⟨f, .acqOk⟩ { setFork s f { s.forks f with pc := .wChk } with lock := some f }
  | acqFailH {s f} : f < c.n → s.lock.isSome = true → (s.forks f).pc = .hAcq →
      Step c s ⟨f, .acqFail⟩ (setFork s f { s.forks f with pc := .hLoop })
  | acqFailW {s f} : f < c.n → s.lock.isSome = true → (s.forks f).pc = .wAcq →
      Step c s ⟨f, .acqFail⟩ (setFork s f { s.forks f with pc := .wLoop })
  | pullH {s f} : f < c.n → s.pulled < c.len → s.raised = false → (s.forks f).pc = .hPull →
      Step c s ⟨f, .pull⟩ { setFork s f { s.forks f with pc := .hPut } with pulled := s.pulled + 1, boxes := s.boxes + 1 }
  | pullW {s f} : f < c.n → s.pulled < c.len → s.raised = false → (s.forks f).pc = .wPull →
      Step c s ⟨f, .pull⟩ { setFork s f { s.forks f with pc := .wLink } with pulled := s.pulled + 1, boxes := s.boxes + 1 }
  | srcEndH {s f} : f < c.n → s.pulled = c.len → c.fail = false → (s.forks f).pc = .hPull →
      Step c s ⟨f, .srcEnd⟩ { setFork s f { s.forks f with pc := .hRelStop } with endPulls := s.endPulls + 1 }
  | srcEndW {s f} : f < c.n → s.pulled = c.len → c.fail = false → (s.forks f).pc = .wPull →
      Step c s ⟨f, .srcEnd⟩ { setFork s f { s.forks f with pc := .wRel } with endPulls := s.endPulls + 1 }
  | srcExcH {s f} : f < c.n → s.pulled = c.len → c.fail = true → s.raised = false → (s.forks f).pc = .hPull →
      Step c s ⟨f, .srcExc⟩ { setFork s f { s.forks f with pc := .hPut } with raised := true, boxes := s.boxes + 1 }
  | srcExcW {s f} : f < c.n → s.pulled = c.len → c.fail = true → s.raised = false → (s.forks f).pc = .wPull →
      Step c s ⟨f, .srcExc⟩ { setFork s f { s.forks f with pc := .wLink } with raised := true, boxes := s.boxes + 1 }
  | putH {s f} : f < c.n → s.put < s.popped + c.bs → (s.forks f).pc = .hPut →
      Step c s ⟨f, .put⟩ { setFork s f { s.forks f with pc := .hSet } with put := s.put + 1 }
  | putW {s f} : f < c.n → s.put < s.popped + c.bs → (s.forks f).pc = .wPut →
      Step c s ⟨f, .put⟩ { setFork s f { s.forks f with pc := .wRel } with put := s.put + 1 }
  | hset {s f} : f < c.n → (s.forks f).pc = .hSet →
      Step c s ⟨f, .hset⟩ { setFork s f { s.forks f with pc := .hRel } with linked := 1 }
  | relH {s f} : f < c.n → s.lock = some f → (s.forks f).pc = .hRel →
      Step c s ⟨f, .rel⟩ { setFork s f { s.forks f with pc := .hLoop } with lock := none }
  | relStop {s f} : f < c.n → s.lock = some f → (s.forks f).pc = .hRelStop →
      Step c s ⟨f, .rel⟩ { setFork s f { s.forks f with pc := .retStop } with lock := none }
  | relW {s f} : f < c.n → s.lock = some f → (s.forks f).pc = .wRel →
      Step c s ⟨f, .rel⟩ { setFork s f { s.forks f with pc := .bAcq } with lock := none }
  | ngetLoop {s f j} : f < c.n → (s.forks f).cur = some j → (s.forks f).pc = .wLoop →
      Step c s ⟨f, .nget⟩ (setFork s f { s.forks f with
        pc := if j + 1 < s.linked then .bAcq else if isExc c j then .bAcq else .wAcq })
  | ngetChk {s f j} : f < c.n → (s.forks f).cur = some j → (s.forks f).pc = .wChk →
      Step c s ⟨f, .nget⟩ (setFork s f { s.forks f with pc := if j + 1 < s.linked then .wRel else .wPull })
  | ngetAdv {s f j} : f < c.n → (s.forks f).cur = some j → (s.forks f).pc = .adv →
      Step c s ⟨f, .nget⟩ (setFork s f { s.forks f with
        pc := if isExc c j then .retExc else .ret j, st := true,
        cur := if j + 1 < s.linked then some (j + 1) else none })
  | nset {s f j} : f < c.n → (s.forks f).cur = some j → (s.forks f).pc = .wLink →
      Step c s ⟨f, .nset⟩ { setFork s f { s.forks f with pc := .wPut } with linked := j + 2 }
  | bacq {s f j} : f < c.n → (s.forks f).cur = some j → boxFree c s f j = true → (s.forks f).pc = .bAcq →
      Step c s ⟨f, .bacq⟩ (setFork s f { s.forks f with pc := .bInc })
  | incRead {s f j} : f < c.n → (s.forks f).cur = some j → (s.forks f).pc = .bInc →
      Step c s ⟨f, .ncmp⟩ (setFork s f { s.forks f with pc := .bIncW, tmp := s.cnt j })
  | inc {s f j} : f < c.n → (s.forks f).cur = some j → (s.forks f).pc = .bIncW →
      Step c s ⟨f, .inc⟩ { setFork s f { s.forks f with pc := .bCmp, inc := (s.forks f).inc + 1 } with
        cnt := fun i => if i = j then (s.forks f).tmp + 1 else s.cnt i }
  | cmp {s f j} : f < c.n → (s.forks f).cur = some j → (s.forks f).pc = .bCmp →
      Step c s ⟨f, .ncmp⟩ (setFork s f { s.forks f with pc := if s.cnt j = c.n then .bGet else .bRel })
  | get {s f} : f < c.n → s.popped < s.put → (s.forks f).pc = .bGet →
      Step c s ⟨f, .get⟩ { setFork s f { s.forks f with pc := .bRel } with popped := s.popped + 1 }
  | brel {s f} : f < c.n → (s.forks f).pc = .bRel →
      Step c s ⟨f, .brel⟩ (setFork s f { s.forks f with pc := .adv })
  | recv {s f j} : f < c.n → (s.forks f).pc = .ret j →
      Step c s ⟨f, .recv⟩ (setFork s f { s.forks f with pc := .idle, out := (s.forks f).out ++ [j] })
  | exc {s f} : f < c.n → (s.forks f).pc = .retExc →
      Step c s ⟨f, .exc⟩ (setFork s f { s.forks f with pc := .done, fin := some .exc })
  | stop {s f} : f < c.n → (s.forks f).pc = .retStop →
      Step c s ⟨f, .stop⟩ (setFork s f { s.forks f with pc := .done, fin := some .stop })

theorem step_sound (c : Cfg) (s s' : State) (a : Act) (h : step c s a = some s') : Step c s a s' := by
  obtain ⟨f, k⟩ := a
  replace h : f < c.n ∧ stepF c s f (s.forks f) k = some s' := Option.ite_none_right_eq_some.mp h
  obtain ⟨hf, h⟩ := h
  revert h
  fun_cases stepF c s f (s.forks f) k <;> intro h <;> cases h
  next hp => exact .call hf hp
  next hp => exact .hgetChk hf hp
  next hp => exact .hgetLoop hf hp
  next hp => exact .hgetLocked hf hp
  next hp hl => exact .hgetNext hf hl hp
  next hl hp => exact .acqOkH hf hl hp
  next hl hp => exact .acqOkW hf hl hp
  next hl hp => exact .acqFailH hf hl hp
  next hl hp => exact .acqFailW hf hl hp
  next hg hp => exact .pullH hf hg.1 hg.2 hp
  next hg hp => exact .pullW hf hg.1 hg.2 hp
  next hg hp => exact .srcEndH hf hg.1 hg.2 hp
  next hg hp => exact .srcEndW hf hg.1 hg.2 hp
  next hg hp => exact .srcExcH hf hg.1 hg.2.1 hg.2.2 hp
  next hg hp => exact .srcExcW hf hg.1 hg.2.1 hg.2.2 hp
  next hg hp => exact .putH hf hg hp
  next hg hp => exact .putW hf hg hp
  next hp => exact .hset hf hp
  next hl hp => exact .relH hf hl hp
  next hl hp => exact .relStop hf hl hp
  next hl hp => exact .relW hf hl hp
  next hc hp => exact .ngetLoop hf hc hp
  next hc hp => exact .ngetChk hf hc hp
  next hc hp => exact .ngetAdv hf hc hp
  next hp hc => exact .nset hf hc hp
  next hp hc hb => exact .bacq hf hc hb hp
  next hp hc => exact .inc hf hc hp
  next hp hc => exact .incRead hf hc hp
  next hp hc => exact .cmp hf hc hp
  next hg hp => exact .get hf hg hp
  next hp => exact .brel hf hp
  next hp => exact .recv hf hp
  next hp => exact .exc hf hp
  next hp => exact .stop hf hp

theorem step_complete {c : Cfg} {s s' : State} {a : Act} (h : Step c s a s') : step c s a = some s' := by
  cases h <;> simp [step, stepF, *]

theorem Step.lt {c : Cfg} {s s' : State} {f : Nat} {k : Kind} (h : Step c s ⟨f, k⟩ s') : f < c.n := by
  cases h <;> assumption

def Reachable (c : Cfg) (s : State) : Prop := Core.Reach (step c) init s

theorem reachable_inv {c : Cfg} {Inv : State → Prop} (h0 : Inv init)
    (hstep : ∀ s a s', Inv s → Step c s a s' → Inv s') {s : State} (hr : Reachable c s) : Inv s :=
  Core.invariant_reach (fun s a s' hi hs => hstep s a s' hi (step_sound c s s' a hs)) h0 hr

end Tee
