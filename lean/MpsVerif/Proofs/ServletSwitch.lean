import MpsVerif.Proofs.ServletWorker
import MpsVerif.Proofs.ServletVal
/-!
# Switch servlet: the graph of its step function and its conservation invariant (no proviso on uids needed)
-/
namespace Servlet

def souts (ms : List (Val → List Val)) (sel : Val → Nat) (x : Val) : List Val :=
  if x.isExc then [x] else (ms.getD (sel x) (fun _ => [])) x

namespace Sw

inductive Step (ms : List (Val → List Val)) (sel : Val → Nat) (s : State) : Act → State → Prop
  | arrive (m : Msg) : Step ms sel s (.arrive m) { s with qin := s.qin ++ [m] }
  | enqExc (u : Nat) (x : Val) (rest : List Msg) (hq : s.qin = (u, x) :: rest) (hx : x.isExc = true) :
      Step ms sel s .enq { s with qin := rest, recv := s.recv ++ [(u, x)], emitq := s.emitq ++ [(u, x, x)] }
  | enqNew (u : Nat) (x : Val) (rest : List Msg) (hq : s.qin = (u, x) :: rest) (hx : x.isExc = false)
      (hlt : sel x < ms.length) :
      Step ms sel s .enq
        { s with qin := rest, recv := s.recv ++ [(u, x)], pend := s.pend ++ [(sel x, (u, x))],
                 switched := s.switched ++ [x] }
  | memberOut (k i u : Nat) (x y : Val) (hk : s.pend[k]? = some (i, (u, x)))
      (hy : y ∈ (ms.getD i (fun _ => [])) x) :
      Step ms sel s (.memberOut k y)
        { s with pend := s.pend.eraseIdx k, qout := s.qout ++ [(u, y)], sentG := s.sentG ++ [(u, x, y)] }
  | emit (k : Nat) (t : GMsg) (hk : s.emitq[k]? = some t) :
      Step ms sel s (.emit k)
        { s with emitq := s.emitq.eraseIdx k, qout := s.qout ++ [gmsg t], sentG := s.sentG ++ [t] }
  | deliver (m : Msg) (rest : List Msg) (hq : s.qout = m :: rest) : Step ms sel s .deliver { s with qout := rest }

variable {ms : List (Val → List Val)} {sel : Val → Nat} {s s' : State} {a : Act}

theorem step_sound (h : step ms sel s a = some s') : Step ms sel s a s' := by
  revert h
  fun_cases step ms sel s a <;> intro h <;> cases h
  next m => exact .arrive m
  next hq hx => exact .enqExc _ _ _ hq hx
  next hq hx hlt => exact .enqNew _ _ _ hq (Bool.eq_false_iff.mpr hx) hlt
  next hk hy => exact .memberOut _ _ _ _ _ hk hy
  next hk => exact .emit _ _ hk
  next hq => exact .deliver _ _ hq

structure Inv (ms : List (Val → List Val)) (sel : Val → Nat) (s : State) : Prop where
  cons : ∀ m, kc m s.sentG + (kc m s.emitq + (s.pend.map (·.2)).count m) = s.recv.count m
  good : ∀ t ∈ s.sentG ++ s.emitq, t.2.2 ∈ souts ms sel t.2.1
  pok  : ∀ p ∈ s.pend, p.1 = sel p.2.2 ∧ p.2.2.isExc = false ∧ p.1 < ms.length
  sw   : ∀ v ∈ s.switched, v.isExc = false

theorem inv_init (ms : List (Val → List Val)) (sel : Val → Nat) : Inv ms sel init :=
  ⟨fun _ => rfl, nofun, nofun, nofun⟩

theorem inv_step (h : Inv ms sel s) (hs : Step ms sel s a s') : Inv ms sel s' := by
  obtain ⟨hc, hg, hp, hw⟩ := h
  cases hs with
  | enqExc u x rest hq hx =>
    refine ⟨fun m => ?_, forall_mem_add hg (List.forall_mem_singleton.mpr ?_), hp, hw⟩
    · have := hc m
      have : kc m (s.emitq ++ [(u, x, x)]) + s.recv.count m = kc m s.emitq + (s.recv ++ [(u, x)]).count m :=
        kc_snoc m s.emitq (u, x, x) s.recv
      dsimp only
      omega
    · simp [souts, hx]
  | enqNew u x rest hq hx hlt =>
    refine ⟨fun m => ?_, hg, ?_, ?_⟩
    · have := hc m
      have := count_snoc_snoc m (u, x) (s.pend.map (·.2)) s.recv
      simp only [List.map_append, List.map_cons, List.map_nil]
      omega
    · exact List.forall_mem_append.mpr ⟨hp, List.forall_mem_singleton.mpr ⟨rfl, hx, hlt⟩⟩
    · exact List.forall_mem_append.mpr ⟨hw, List.forall_mem_singleton.mpr hx⟩
  | memberOut k i u x y hk hy =>
    obtain ⟨p1, p2, -⟩ := hp _ (List.mem_of_getElem? hk)
    refine ⟨fun m => ?_, ?_, fun p hp' => hp p (List.mem_of_mem_eraseIdx hp'), hw⟩
    · have := hc m
      have : kc m (s.sentG ++ [(u, x, y)]) + ((s.pend.eraseIdx k).map (·.2)).count m
          = kc m s.sentG + ((s.pend.eraseIdx k).map (·.2) ++ [(u, x)]).count m :=
        kc_snoc m s.sentG (u, x, y) _
      have := count_map_eraseIdx (·.2) m hk
      dsimp only at this ⊢
      omega
    · intro t ht
      rcases List.mem_append.mp ht with ht | ht
      · rcases List.mem_append.mp ht with ht | ht
        · exact hg t (List.mem_append_left _ ht)
        · cases List.mem_singleton.mp ht
          -- `i` is the member `switch` selected for `x`
          simp only [souts, p2, Bool.false_eq_true, if_false, ← p1]
          exact hy
      · exact hg t (List.mem_append_right _ ht)
  | emit k t hk =>
    refine ⟨fun m => ?_, fun t' ht' => hg t' ((move_perm _ hk).mem_iff.mp ht'), hp, hw⟩
    have := hc m
    have := kc_move m s.sentG hk
    dsimp only
    omega
  | arrive m | deliver m rest hq => exact ⟨hc, hg, hp, hw⟩

theorem inv_run {ms : List (Val → List Val)} {sel : Val → Nat} {as : List Act} {s : State}
    (hr : Core.run (step ms sel) init as = some s) : Inv ms sel s :=
  Core.invariant_run (Inv := Inv ms sel) (fun _ _ _ h hs => inv_step h (step_sound hs)) as init s
    (inv_init ms sel) hr

theorem pend_nodup (h : Inv ms sel s) (hn : (s.recv.map (·.1)).Nodup) :
    (s.pend.map pkey).Nodup := by
  have := nodup_fst_of_count_le (s.pend.map (·.2)) (fun m => by have := h.cons m; omega) hn
  rw [List.map_map] at this
  exact (List.pairwise_map.mp this).map _ fun _ _ hne heq => hne (congrArg Prod.snd heq)

end Sw
end Servlet
