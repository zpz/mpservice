import MpsVerif.Model.IterQueue
import MpsVerif.Core.Sys
/-!
# Relational presentation of the `IterableQueue` model and `step_sound`

One constructor per (action, branch); guards are explicit premises.  Invariant proofs do `cases`
on `Step`; the property theorems are stated over `step`/`Core.run` and use `step_sound`.
-/
namespace IterQueue

inductive Step (c : Cfg) (s : State) : Act → State → Prop
  | sPutBeg (i x : Nat) (a : Sup) (h : s.sups[i]? = some a) (hpc : a.pc = .idle) :
      Step c s (.sPutBeg i x) { s with sups := s.sups.set i { pc := .putw x, t0 := s.now, tw := s.now } }
  | sPut (i x : Nat) (a : Sup) (h : s.sups[i]? = some a) (hpc : a.pc = .putw x) (hroom : room c s = true) :
      Step c s (.sPut i) { s with sups := s.sups.set i { a with pc := .idle }, queue := s.queue ++ [.item i x],
                                  putLog := s.putLog ++ [(i, x)] }
  | sEndBeg (i : Nat) (a : Sup) (h : s.sups[i]? = some a) (hpc : a.pc = .idle) (hsp : 0 < s.spare) :
      Step c s (.sEndBeg i) { s with sups := s.sups.set i { a with pc := .pe1 }, spare := s.spare - 1 }
  | sApply (i : Nat) (a : Sup) (h : s.sups[i]? = some a) (hpc : a.pc = .pe1) (hap : s.applied < c.m) :
      Step c s (.sApply i) { s with sups := s.sups.set i { pc := .pe2, t0 := s.now, tw := s.now },
                                    applied := s.applied + 1 }
  | sMark (i : Nat) (a : Sup) (h : s.sups[i]? = some a) (hpc : a.pc = .pe2) (hroom : room c s = true) :
      Step c s (.sMark i) { s with sups := s.sups.set i { a with pc := .ended }, queue := s.queue ++ [.mark] }
  | sRetry (i : Nat) (a : Sup) (h : s.sups[i]? = some a) (hw : a.pc.waiting = true) (hroom : room c s = false)
      (hdue : a.tw + c.w ≤ s.now) (hstop : s.stop = none) :
      Step c s (.sRetry i) { s with sups := s.sups.set i { a with tw := s.now } }
  | sStop (i : Nat) (a : Sup) (h : s.sups[i]? = some a) (hw : a.pc.waiting = true) (hroom : room c s = false)
      (hdue : a.tw + c.w ≤ s.now) (hstop : s.stop ≠ none) :
      Step c s (.sStop i)
        { s with sups := s.sups.set i { a with pc := if a.pc = .pe2 then .stoppedE else .stoppedP } }
  | cChk1Full (j : Nat) (a : Con) (h : s.cons[j]? = some a) (hpc : a.pc = .chk1) (hf : usedFull c s = true) :
      Step c s (.cChk1 j) { s with cons := s.cons.set j { a with pc := .done } }
  | cChk1Go (j : Nat) (a : Con) (h : s.cons[j]? = some a) (hpc : a.pc = .chk1) (hf : usedFull c s = false) :
      Step c s (.cChk1 j) { s with cons := s.cons.set j { pc := .get, t0 := s.now, tw := s.now } }
  | cGetItem (j i x : Nat) (rest : List QItem) (a : Con) (h : s.cons[j]? = some a) (hpc : a.pc = .get)
      (hq : s.queue = .item i x :: rest) :
      Step c s (.cGet j) { s with cons := s.cons.set j { a with pc := .chk1 }, queue := rest,
                                  gotLog := s.gotLog ++ [(j, x)] }
  | cGetMark (j : Nat) (rest : List QItem) (a : Con) (h : s.cons[j]? = some a) (hpc : a.pc = .get)
      (hq : s.queue = .mark :: rest) :
      Step c s (.cGet j) { s with cons := s.cons.set j { a with pc := .chk2 }, queue := rest }
  | cChk2Full (j : Nat) (a : Con) (h : s.cons[j]? = some a) (hpc : a.pc = .chk2) (hf : usedFull c s = true) :
      Step c s (.cChk2 j) { s with cons := s.cons.set j { pc := .reput, t0 := s.now, tw := s.now } }
  | cChk2Go (j : Nat) (a : Con) (h : s.cons[j]? = some a) (hpc : a.pc = .chk2) (hf : usedFull c s = false) :
      Step c s (.cChk2 j) { s with cons := s.cons.set j { a with pc := .lock } }
  | cReput (j : Nat) (a : Con) (h : s.cons[j]? = some a) (hpc : a.pc = .reput) (hroom : room c s = true) :
      Step c s (.cReput j) { s with cons := s.cons.set j { a with pc := .done }, queue := s.queue ++ [.mark] }
  | cLock (j : Nat) (a : Con) (h : s.cons[j]? = some a) (hpc : a.pc = .lock) (hl : s.lock = false) :
      Step c s (.cLock j) { s with cons := s.cons.set j { a with pc := .take }, lock := true }
  | cTake (j : Nat) (a : Con) (h : s.cons[j]? = some a) (hpc : a.pc = .take) (hap : 0 < s.applied) :
      Step c s (.cTake j) { s with cons := s.cons.set j { a with pc := .give }, applied := s.applied - 1 }
  | cGive (j : Nat) (a : Con) (h : s.cons[j]? = some a) (hpc : a.pc = .give) (hu : s.used < c.m) :
      Step c s (.cGive j) { s with cons := s.cons.set j { a with pc := .test }, used := s.used + 1 }
  | cTest (j : Nat) (a : Con) (h : s.cons[j]? = some a) (hpc : a.pc = .test) :
      Step c s (.cTest j) { s with cons := s.cons.set j { a with pc := .unl (usedFull c s) } }
  | cUnlockLast (j : Nat) (a : Con) (h : s.cons[j]? = some a) (hpc : a.pc = .unl true) :
      Step c s (.cUnlock j) { s with cons := s.cons.set j { pc := .extra, t0 := s.now, tw := s.now }, lock := false }
  | cUnlockGo (j : Nat) (a : Con) (h : s.cons[j]? = some a) (hpc : a.pc = .unl false) :
      Step c s (.cUnlock j) { s with cons := s.cons.set j { a with pc := .chk1 }, lock := false }
  | cExtra (j : Nat) (a : Con) (h : s.cons[j]? = some a) (hpc : a.pc = .extra) (hroom : room c s = true) :
      Step c s (.cExtra j) { s with cons := s.cons.set j { a with pc := .done }, queue := s.queue ++ [.mark],
                                    extraOut := true }
  | cRetry (j : Nat) (a : Con) (h : s.cons[j]? = some a) (hw : a.pc.waiting = true)
      (hb : cBlocked c s a.pc = true) (hdue : a.tw + c.w ≤ s.now) (hstop : s.stop = none) :
      Step c s (.cRetry j) { s with cons := s.cons.set j { a with tw := s.now } }
  | cStop (j : Nat) (a : Con) (h : s.cons[j]? = some a) (hw : a.pc.waiting = true)
      (hb : cBlocked c s a.pc = true) (hdue : a.tw + c.w ≤ s.now) (hstop : s.stop ≠ none) :
      Step c s (.cStop j) { s with cons := s.cons.set j { a with pc := .stopped } }
  | rStartOk (hr : s.rpc = .off) (hall : ∀ a ∈ s.cons, a.pc = .done) (hf : usedFull c s = true) :
      Step c s .rStart { s with rpc := .get, rt0 := s.now, rtw := s.now }
  | rStartFail (hr : s.rpc = .off) (hall : ∀ a ∈ s.cons, a.pc = .done) (hf : usedFull c s = false) :
      Step c s .rStart { s with rpc := .failed }
  | rGetMark (rest : List QItem) (hr : s.rpc = .get) (hq : s.queue = .mark :: rest) (hu : c.m ≤ s.used) :
      Step c s .rGet
        { s with sups := List.replicate c.m freshSup, cons := List.replicate c.n freshCon,
                 queue := rest, spare := s.spare + c.m, used := s.used - c.m, rpc := .off,
                 round := s.round + 1, extraOut := false, putLog := [], gotLog := [],
                 hist := s.hist ++ [(s.putLog, s.gotLog)] }
  | rGetItem (i x : Nat) (rest : List QItem) (hr : s.rpc = .get) (hq : s.queue = .item i x :: rest) :
      Step c s .rGet { s with rpc := .failed, queue := rest }
  | rRetry (hr : s.rpc = .get) (hq : s.queue = []) (hdue : s.rtw + c.w ≤ s.now) (hstop : s.stop = none) :
      Step c s .rRetry { s with rtw := s.now }
  | rStop (hr : s.rpc = .get) (hq : s.queue = []) (hdue : s.rtw + c.w ≤ s.now) (hstop : s.stop ≠ none) :
      Step c s .rStop { s with rpc := .stopped }
  | setStop (hstop : s.stop = none) : Step c s .setStop { s with stop := some s.now }
  | tick (hnd : noneDue c s = true) : Step c s .tick { s with now := s.now + 1 }

theorem step_sound (c : Cfg) (s s' : State) (a : Act) (h : step c s a = some s') : Step c s a s' := by
  revert h
  fun_cases step c s a <;> intro h <;> cases h
  next ha hp => exact .sPutBeg _ _ _ ha hp
  next ha _ hp hr => exact .sPut _ _ _ ha hp hr
  next ha hg => exact .sEndBeg _ _ ha hg.1 hg.2
  next ha hg => exact .sApply _ _ ha hg.1 hg.2
  next ha hg => exact .sMark _ _ ha hg.1 hg.2
  next ha hg => exact .sRetry _ _ ha hg.1 hg.2.1 hg.2.2.1 hg.2.2.2
  next ha hg => exact .sStop _ _ ha hg.1 hg.2.1 hg.2.2.1 hg.2.2.2
  next ha hp hf => exact .cChk1Full _ _ ha hp hf
  next ha hp hf => exact .cChk1Go _ _ ha hp (eq_false_of_ne_true hf)
  next ha hp _ _ _ hq => exact .cGetItem _ _ _ _ _ ha hp hq
  next ha hp _ hq => exact .cGetMark _ _ _ ha hp hq
  next ha hp hf => exact .cChk2Full _ _ ha hp hf
  next ha hp hf => exact .cChk2Go _ _ ha hp (eq_false_of_ne_true hf)
  next ha hg => exact .cReput _ _ ha hg.1 hg.2
  next ha hg => exact .cLock _ _ ha hg.1 hg.2
  next ha hg => exact .cTake _ _ ha hg.1 hg.2
  next ha hg => exact .cGive _ _ ha hg.1 hg.2
  next ha hp => exact .cTest _ _ ha hp
  next ha hp => exact .cUnlockLast _ _ ha hp
  next ha hp => exact .cUnlockGo _ _ ha hp
  next ha hg => exact .cExtra _ _ ha hg.1 hg.2
  next ha hg => exact .cRetry _ _ ha hg.1 hg.2.1 hg.2.2.1 hg.2.2.2
  next ha hg => exact .cStop _ _ ha hg.1 hg.2.1 hg.2.2.1 hg.2.2.2
  next hg hf => exact .rStartOk hg.1 (fun a ha => eq_of_beq (List.all_eq_true.mp hg.2 a ha)) hf
  next hg hf =>
    exact .rStartFail hg.1 (fun a ha => eq_of_beq (List.all_eq_true.mp hg.2 a ha)) (eq_false_of_ne_true hf)
  next hr _ hq hu => exact .rGetMark _ hr hq hu
  next hr _ _ _ hq => exact .rGetItem _ _ _ hr hq
  next hg => exact .rRetry hg.1 hg.2.1 hg.2.2.1 hg.2.2.2
  next hg => exact .rStop hg.1 hg.2.1 hg.2.2.1 hg.2.2.2
  next hs => exact .setStop hs
  next hd => exact .tick hd

def Reachable (c : Cfg) (s : State) : Prop := Core.Reach (step c) (init c) s

theorem reachable_inv {c : Cfg} {Inv : State → Prop} (h0 : Inv (init c))
    (hstep : ∀ s a s', Inv s → Step c s a s' → Inv s') {s : State} (hr : Reachable c s) : Inv s :=
  Core.invariant_reach (fun s a s' hi hs => hstep s a s' hi (step_sound c s s' a hs)) h0 hr

end IterQueue
