import MpsVerif.Model.Lifecycle
/-! `start`: error position and surviving threads, for every tree and failure plan. -/
namespace Lifecycle

def isBad (bad : Nat → Nat → Bool) (t : Tid) : Bool := bad t.1 t.2

/-- the first worker, in launch order, whose `__init__` fails -/
def firstBad (bad : Nat → Nat → Bool) (ws : List Tid) : Option Tid := ws.find? (isBad bad)

@[simp] theorem gone_launch_cons (t : Tid) (es : List Ev) : gone (.launch t :: es) = gone es := rfl
@[simp] theorem launched_launch_cons (t : Tid) (es : List Ev) : launched (.launch t :: es) = t :: launched es := rfl

@[simp] theorem launched_append (a b : List Ev) : launched (a ++ b) = launched a ++ launched b := by
  induction a with
  | nil => rfl
  | cons e a ih => cases e <;> simp only [List.cons_append, launched, ih]

@[simp] theorem gone_append (a b : List Ev) : gone (a ++ b) = gone a ++ gone b := by
  induction a with
  | nil => rfl
  | cons e a ih => cases e <;> simp only [List.cons_append, gone, ih]

@[simp] theorem launched_exits (l : List Tid) : launched (l.map Ev.exit) = [] := by
  induction l with
  | nil => rfl
  | cons t l ih => exact ih

@[simp] theorem gone_exits (l : List Tid) : gone (l.map Ev.exit) = l := by
  induction l with
  | nil => rfl
  | cons t l ih => exact congrArg (t :: ·) ih

@[simp] theorem launched_launches (l : List Tid) : launched (l.map Ev.launch) = l := by
  induction l with
  | nil => rfl
  | cons t l ih => exact congrArg (t :: ·) ih

@[simp] theorem gone_launches (l : List Tid) : gone (l.map Ev.launch) = [] := by
  induction l with
  | nil => rfl
  | cons t l ih => exact ih

structure StartOk (bad : Nat → Nat → Bool) (ws ths : List Tid) (r : SRes) : Prop where
  err : r.err = firstBad bad ws
  ok : r.err = none → launched r.evs = ths ∧ gone r.evs = []
  ko : r.err ≠ none → ∀ x ∈ launched r.evs, x ∈ gone r.evs

/-- workers `i, i+1, …` of a servlet whose workers `0 … i-1` are running: on failure those are stopped as well -/
theorem workerEvs_spec (sv : Nat) (bad : Nat → Nat → Bool) (todo i : Nat) :
    let r := workerEvs sv bad todo i
    r.err = firstBad bad ((List.range' i todo).map (fun j => (sv, j))) ∧
    (r.err = none → launched r.evs = (List.range' i todo).map (fun j => (sv, j)) ∧ gone r.evs = []) ∧
    (r.err ≠ none → ∀ x, (x ∈ launched r.evs ∨ ∃ j, j < i ∧ x = (sv, j)) → x ∈ gone r.evs) := by
  induction todo generalizing i with
  | zero => exact ⟨rfl, fun _ => ⟨rfl, rfl⟩, fun h => absurd rfl h⟩
  | succ todo ih =>
    simp only [workerEvs, List.range'_succ, List.map_cons, firstBad, List.find?_cons, isBad]
    cases hb : bad sv i with
    | true =>
      refine ⟨rfl, nofun, fun _ x hx => ?_⟩
      simp only [if_true, List.cons_append, List.nil_append, launched_launch_cons, gone_launch_cons, launched,
        launched_exits, gone, gone_exits, List.mem_cons, List.mem_map, List.mem_range] at hx ⊢
      rcases hx with (rfl | h) | ⟨j, hj, rfl⟩
      · exact .inl rfl
      · cases h
      · exact .inr ⟨j, hj, rfl⟩
    | false =>
      obtain ⟨h1, h2, h3⟩ := ih (i + 1)
      refine ⟨h1, fun he => ?_, fun he x hx => ?_⟩
      · obtain ⟨hl, hg⟩ := h2 he
        exact ⟨congrArg _ hl, hg⟩
      · refine h3 he x ?_
        rcases hx with h | ⟨j, hj, h⟩
        · rcases List.mem_cons.mp h with h | h
          · exact .inr ⟨i, Nat.lt_succ_self i, h⟩
          · exact .inl h
        · exact .inr ⟨j, Nat.lt_succ_of_lt hj, h⟩

theorem firstBad_append (bad : Nat → Nat → Bool) (a b : List Tid) :
    firstBad bad (a ++ b) = (firstBad bad a).or (firstBad bad b) :=
  List.find?_append

/-- two members started one after the other, then `extra` helper threads -/
theorem pair_spec {bad : Nat → Nat → Bool} {wa wb ta tb : List Tid} (extra : List Tid) {ra rb : SRes}
    (ha : StartOk bad wa ta ra) (hb : StartOk bad wb tb rb) :
    StartOk bad (wa ++ wb) (ta ++ tb ++ extra)
      (match ra.err with
       | some e => { evs := ra.evs, err := some e }
       | none =>
         match rb.err with
         | some e => { evs := ra.evs ++ rb.evs ++ ta.map Ev.exit, err := some e }
         | none => { evs := ra.evs ++ rb.evs ++ extra.map Ev.launch, err := none }) := by
  have herr := firstBad_append bad wa wb
  rw [← ha.err, ← hb.err] at herr
  cases hea : ra.err with
  | some e =>
    rw [hea] at herr
    exact ⟨herr.symm, nofun, fun _ => ha.ko (by rw [hea]; nofun)⟩
  | none =>
    obtain ⟨hla, hga⟩ := ha.ok hea
    rw [hea] at herr
    cases heb : rb.err with
    | some e =>
      rw [heb] at herr
      refine ⟨herr.symm, nofun, fun _ x hx => ?_⟩
      simp only [launched_append, launched_exits, List.append_nil, gone_append, gone_exits, hla, hga,
        List.nil_append, List.mem_append] at hx ⊢
      exact hx.symm.imp_left (hb.ko (by rw [heb]; nofun) x)
    | none =>
      obtain ⟨hlb, hgb⟩ := hb.ok heb
      rw [heb] at herr
      refine ⟨herr.symm, fun _ => ?_, fun h => absurd rfl h⟩
      simp only [launched_append, gone_append, launched_launches, gone_launches, hla, hlb, hga, hgb, List.append_nil,
        and_self]

theorem startT_spec (bad : Nat → Nat → Bool) (t : Tree) (sv : Nat) :
    StartOk bad (workers t sv) (threads t sv) (startT bad t sv) := by
  induction t generalizing sv with
  | simple k p =>
    obtain ⟨h1, h2, h3⟩ := workerEvs_spec sv bad k 0
    rw [← List.range_eq_range'] at h1 h2
    exact ⟨h1, h2, fun he x hx => h3 he x (.inl hx)⟩
  | seq a b iha ihb =>
    have := pair_spec [] (iha (sv + 1)) (ihb (sv + 1 + a.size))
    rwa [List.map_nil, List.append_nil, List.append_nil] at this
  | ens a b iha ihb => exact pair_spec [(sv, 100), (sv, 101)] (iha (sv + 1)) (ihb (sv + 1 + a.size))
  | sw a b iha ihb => exact pair_spec [(sv, 101)] (iha (sv + 1)) (ihb (sv + 1 + a.size))

/-- the server starts its own threads after the tree, as a compound servlet starts its helpers after its members -/
theorem startServer_spec (bad : Nat → Nat → Bool) (t : Tree) :
    StartOk bad (workers t 0) (threads t 0 ++ serverThreads t) (startServer bad t) := by
  have := pair_spec (wb := []) (tb := []) (serverThreads t) (rb := ⟨[], none⟩) (startT_spec bad t 0)
    ⟨rfl, fun _ => ⟨rfl, rfl⟩, fun h => absurd rfl h⟩
  simp only [List.append_nil] at this
  exact this

theorem alive_nil_of_all_gone (es : List Ev) (h : ∀ x ∈ launched es, x ∈ gone es) : alive es = [] := by
  refine List.filter_eq_nil_iff.mpr fun x hx => ?_
  simp only [List.contains_iff_mem.mpr (h x hx), Bool.not_true, Bool.false_eq_true, not_false_eq_true]

theorem alive_of_none_gone (es : List Ev) (h : gone es = []) : alive es = launched es := by
  rw [alive, h]
  exact List.filter_eq_self.mpr fun _ _ => rfl

end Lifecycle
