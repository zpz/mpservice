import MpsVerif.Proofs.MuxInv
/-!
Liveness side of the multiplexing model: no request is ever lost (every request that exists is in
exactly the place its ghost stage says: `Located`), progress (an unresolved request always has an
enabled internal action) and a measure that every internal action decreases.
-/
namespace Mux

def InQ {α : Type} (proj : Conn → List α) (gk : α → Nat) (conns : List Conn) (ci k : Nat) : Prop :=
  ∃ cn m, conns[ci]? = some cn ∧ m ∈ proj cn ∧ gk m = k

def InPend (s : State) (k : Nat) : Prop := ∃ x, (x, k) ∈ s.pending
def InRes (s : State) (k : Nat) : Prop := ∃ v, (k, v) ∈ s.results

def LocatedAt (s : State) (k : Nat) : Stage → Prop
  | .pending => InPend s k
  | .wire ci => InQ Conn.wire Msg.gk s.conns ci k
  | .srv ci => InQ Conn.srvq Task.gk s.conns ci k
  | .back ci => InQ Conn.back Rsp.gk s.conns ci k
  | .resolved => InRes s k

def Located (s : State) : Prop := ∀ k r, s.reqs[k]? = some r → LocatedAt s k (s.stage k)

theorem inQ_iff {α : Type} {proj : Conn → List α} {gk : α → Nat} {s : State} {ci k : Nat} :
    InQ proj gk s.conns ci k ↔ k ∈ (queue s ci proj).map gk := by
  rw [List.mem_map]
  constructor
  · rintro ⟨cn, m, hc, hm, e⟩
    exact ⟨m, queue_of_some proj hc ▸ hm, e⟩
  · rintro ⟨m, hm, e⟩
    cases hc : s.conns[ci]? with
    | none =>
      rw [queue, hc] at hm
      cases hm
    | some cn => exact ⟨cn, m, hc, queue_of_some proj hc ▸ hm, e⟩

theorem locatedAt_iff {c : Cfg} {s : State} {k : Nat} {P : Stage} :
    LocatedAt s k P ↔ k ∈ (itemsAt c s P).map Item.k := by
  cases P with
  | pending =>
    rw [itemsAt, List.map_map, List.mem_map]
    exact ⟨fun ⟨x, h⟩ => ⟨(x, k), h, rfl⟩, fun ⟨e, h, hk⟩ => ⟨e.1, hk ▸ h⟩⟩
  | wire ci | srv ci | back ci =>
    rw [itemsAt, List.map_map]
    exact inQ_iff
  | resolved =>
    rw [itemsAt, List.map_map, List.mem_map]
    exact ⟨fun ⟨v, h⟩ => ⟨(k, v), h, rfl⟩, fun ⟨e, h, hk⟩ => ⟨e.2, hk ▸ h⟩⟩

theorem located_init (c : Cfg) : Located (init c) := nofun

theorem Located.unresolved {s : State} (hl : Located s) {k : Nat} {r : Req} (hk : s.reqs[k]? = some r)
    (hu : ∀ v, (k, v) ∉ s.results) : s.stage k ≠ .resolved := by
  intro hst
  obtain ⟨v, hv⟩ := hst ▸ hl k r hk
  exact hu v hv

theorem Kind.located {c : Cfg} {s s' : State} (kd : Kind c s s') (hl : Located s) : Located s' := by
  intro k r hk
  rw [locatedAt_iff (c := c)]
  cases kd with
  | @move A B it new m =>
    rw [m.reqs] at hk
    rw [m.stage]
    by_cases hkk : k = it.k
    · rw [hkk, upd_same, m.push, ← m.key, List.map_append]
      exact List.mem_append_right _ List.mem_cons_self
    · have h := (locatedAt_iff (c := c)).1 (hl k r hk)
      obtain ⟨rest, h1, h2⟩ := m.pop
      rw [upd_ne hkk]
      by_cases hA : s.stage k = A
      · rw [hA, h1, List.map_cons, List.mem_cons] at h
        rw [hA, h2]
        exact h.resolve_left hkk
      · by_cases hB : s.stage k = B
        · rw [hB, m.push, List.map_append]
          exact List.mem_append_left _ (hB ▸ h)
        · rw [m.other _ hA hB]
          exact h
  | @create x id m =>
    have hpend : (itemsAt c s' .pending).map Item.k = (itemsAt c s .pending).map Item.k ++ [s.reqs.length] := by
      rw [m.items_new, List.map_append]
      rfl
    rw [m.reqs] at hk
    rcases getElem?_snoc hk with ⟨_, hold⟩ | ⟨e, _⟩
    · have h := (locatedAt_iff (c := c)).1 (hl k r hold)
      rw [m.stage_old hold]
      by_cases hP : s.stage k = .pending
      · rw [hP, hpend]
        exact List.mem_append_left _ (hP ▸ h)
      · rw [m.items_old hP]
        exact h
    · rw [e, m.stage, upd_same, hpend]
      exact List.mem_append_right _ List.mem_cons_self
  | still m =>
    rw [m.reqs] at hk
    rw [m.stage, m.items]
    exact (locatedAt_iff (c := c)).1 (hl k r hk)

structure Inv2 (c : Cfg) (s : State) : Prop where
  inv : Inv c s
  loc : Located s
  nconn : s.conns.length = c.nconn

theorem step_conns_length {c : Cfg} {s s' : State} {a : Act} (hs : Step c s a s') :
    s'.conns.length = s.conns.length := by
  cases hs with
  | submit | ssubmit | syield => rfl
  | _ => exact List.length_set

theorem all_reachable2 (c : Cfg) {s : State} (hr : Reachable c s) : Inv2 c s := by
  have h := reachable_inv c
    (Inv := fun s => (Track c s ∧ Dict s ∧ Stream c s) ∧ Located s ∧ s.conns.length = c.nconn)
    ⟨parts_init c, located_init c, List.length_replicate⟩
    (fun s a s' h hs => ⟨parts_step h.1 hs, (step_kind h.1.1 h.1.2.1 hs).located h.2.1,
      (step_conns_length hs).trans h.2.2⟩) hr
  exact ⟨.of_parts h.1.1 h.1.2.1 h.1.2.2, h.2.1, h.2.2⟩

def notDone (l : List Task) : Nat := (l.filter (fun t => !t.done)).length

-- A request weighs the internal steps still in front of it: 5 pending (`send`), 4 on the wire (`srvRecv`), 3 in the
-- server's queue (2, and 1 while not done: `finish`), 2 once done (`respond`), 1 on the way back (`recv`); a
-- streamed one 1 more until its result is yielded (`tasks`).
def connMeasure (cn : Conn) : Nat := 4 * cn.wire.length + 2 * cn.srvq.length + notDone cn.srvq + cn.back.length

def measure (s : State) : Nat :=
  5 * s.pending.length + (s.conns.map connMeasure).sum + s.tasks.length

def Act.internal : Act → Bool
  | .submit .. | .ssubmit .. => false
  | _ => true

def Act.transport : Act → Bool
  | .send .. | .srvRecv .. | .finish .. | .respond .. | .recv .. => true
  | _ => false

theorem Act.internal_of_transport {a : Act} (h : a.transport = true) : a.internal = true := by
  cases a <;> first | rfl | cases h

/-- replacing one entry: the sum over the other entries is the same before and after -/
theorem sum_map_set {f : Conn → Nat} {l : List Conn} {i : Nat} {a : Conn} (h : l[i]? = some a) :
    ∃ R, (l.map f).sum = f a + R ∧ ∀ b, ((l.set i b).map f).sum = f b + R := by
  induction l generalizing i with
  | nil => cases h
  | cons x l ih =>
    cases i with
    | zero =>
      cases h
      exact ⟨(l.map f).sum, rfl, fun _ => rfl⟩
    | succ i =>
      obtain ⟨R, h1, h2⟩ := ih h
      refine ⟨f x + R, ?_, fun b => ?_⟩
      · rw [List.map_cons, List.sum_cons, h1]
        exact Nat.add_left_comm _ _ _
      · rw [List.set_cons_succ, List.map_cons, List.sum_cons, h2]
        exact Nat.add_left_comm _ _ _

theorem notDone_nil : notDone [] = 0 := rfl

theorem notDone_cons (x : Task) (l : List Task) :
    notDone (x :: l) = (if x.done then 0 else 1) + notDone l := by
  rw [notDone, List.filter_cons]
  cases x.done
  · exact Nat.add_comm _ _
  · exact (Nat.zero_add _).symm

theorem notDone_append (l1 l2 : List Task) : notDone (l1 ++ l2) = notDone l1 + notDone l2 := by
  rw [notDone, List.filter_append, List.length_append]
  rfl

theorem notDone_set {l : List Task} {j : Nat} {t : Task} (h : l[j]? = some t) (hd : t.done = false) :
    notDone (l.set j { t with done := true }) + 1 = notDone l := by
  induction l generalizing j with
  | nil => cases h
  | cons x l ih =>
    cases j with
    | zero =>
      cases h
      simp only [List.set_cons_zero, notDone_cons, hd, if_true, Bool.false_eq_true, if_false, Nat.zero_add]
      exact Nat.add_comm _ _
    | succ j =>
      rw [List.set_cons_succ, notDone_cons, notDone_cons, Nat.add_assoc, ih h]

theorem measure_step {c : Cfg} {s s' : State} {a : Act} (hs : Step c s a s') (hint : a.internal = true) :
    measure s' + 1 ≤ measure s := by
  cases hs with
  | submit hf _ => cases hint
  | ssubmit hf _ => cases hint
  | send hp hc hr _ =>
    obtain ⟨R, h1, h2⟩ := sum_map_set (f := connMeasure) hc
    simp only [measure, hp, h1, h2, connMeasure, List.length_cons, List.length_append, List.length_nil]
    omega
  | srvRecv hc hw _ =>
    obtain ⟨R, h1, h2⟩ := sum_map_set (f := connMeasure) hc
    simp only [measure, h1, h2, connMeasure, hw, List.length_cons, List.length_append, List.length_nil,
      notDone_append, notDone_cons, notDone_nil, Bool.false_eq_true, if_false]
    omega
  | finish hc ht hd =>
    obtain ⟨R, h1, h2⟩ := sum_map_set (f := connMeasure) hc
    have := notDone_set ht hd
    simp only [measure, h1, h2, connMeasure, List.length_set]
    omega
  | respond hc hq hd _ =>
    obtain ⟨R, h1, h2⟩ := sum_map_set (f := connMeasure) hc
    simp only [measure, h1, h2, connMeasure, hq, hd, notDone_cons, List.length_cons, List.length_append,
      List.length_nil, if_true]
    omega
  | recv hc hb hlk =>
    obtain ⟨R, h1, h2⟩ := sum_map_set (f := connMeasure) hc
    simp only [measure, h1, h2, connMeasure, hb, List.length_cons]
    omega
  | syield ht hv =>
    simp only [measure, ht, List.length_cons]
    omega

theorem internal_run_bounded (c : Cfg) (as : List Act) (s s' : State) (hint : ∀ a ∈ as, a.internal = true)
    (hrun : Core.run (step c) s as = some s') : as.length + measure s' ≤ measure s := by
  have := Core.countP_le_measure measure (fun _ => true) (fun _ => True) (fun a => a.internal = true)
    (fun _ _ _ _ _ _ => trivial)
    (fun s a s1 _ ha hs => by
      have := measure_step (step_sound c s s1 a hs) ha
      rw [if_pos rfl]
      exact this)
    as s s' trivial hint hrun
  rwa [List.countP_true] at this

def Cfg.Live (c : Cfg) : Prop := 0 < c.nconn ∧ 0 < c.wireCap ∧ 0 < c.srvCap ∧ 0 < c.backCap

theorem recv_enabled {c : Cfg} {s : State} (h : Inv c s) {ci : Nat} {cn : Conn} {r : Rsp} {rest : List Rsp}
    (hc : s.conns[ci]? = some cn) (hb : cn.back = r :: rest) :
    lookup s.active r.rid = some r.gk ∧ (step c s (.recv ci)).isSome = true := by
  have hl := lookup_of_mem h.act_keys (h.back_ok ci cn hc r (hb ▸ List.mem_cons_self)).1
  exact ⟨hl, by simp [step, hc, hb, hl]⟩

/-- the client can always take the next response; otherwise the head task can complete or (the return
    direction being empty) be answered; otherwise (the server queue being empty) the server can read
    the next record -/
theorem conn_progress (c : Cfg) (s : State) (h : Inv c s) (hsc : 0 < c.srvCap) (hbc : 0 < c.backCap)
    (ci : Nat) (cn : Conn) (hc : s.conns[ci]? = some cn)
    (hne : ¬ (cn.wire = [] ∧ cn.srvq = [] ∧ cn.back = [])) :
    ∃ a, a.transport = true ∧ (step c s a).isSome = true := by
  cases hb : cn.back with
  | cons r0 rest => exact ⟨.recv ci, rfl, (recv_enabled h hc hb).2⟩
  | nil =>
    cases hq : cn.srvq with
    | cons t rest =>
      by_cases hd : t.done = true
      · exact ⟨.respond ci, rfl, by simp [step, hc, hq, hd, hb, hbc]⟩
      · exact ⟨.finish ci 0, rfl, by simp [step, hc, hq, hd]⟩
    | nil =>
      cases hw : cn.wire with
      | cons m0 rest => exact ⟨.srvRecv ci, rfl, by simp [step, hc, hw, hq, hsc]⟩
      | nil => exact absurd ⟨hw, hq, hb⟩ hne

/-- while a request is unresolved some transport action is enabled (on the request's own connection
    once it has been sent), whatever the capacities of the buffers (≥ 1): flow control cannot wedge
    the transport -/
theorem progress (c : Cfg) (s : State) (h : Inv2 c s) (hn : 0 < c.nconn) (hwc : 0 < c.wireCap)
    (hsc : 0 < c.srvCap) (hbc : 0 < c.backCap) (k : Nat) (r : Req)
    (hk : s.reqs[k]? = some r) (hu : ∀ v, (k, v) ∉ s.results) :
    ∃ a, a.transport = true ∧ (step c s a).isSome = true := by
  have hloc := h.loc k r hk
  cases hst : s.stage k with
  | resolved => exact absurd hst (h.loc.unresolved hk hu)
  | pending =>
    -- the head of `pending` can be sent on connection 0 if that is idle; if not, connection 0 can move
    obtain ⟨x, hx⟩ := hst ▸ hloc
    cases hp : s.pending with
    | nil => cases hp ▸ hx
    | cons e rest =>
      obtain ⟨r0, hr0, _⟩ := (h.inv.pend_ok e.1 e.2 (hp ▸ List.mem_cons_self)).1
      have hlen : 0 < s.conns.length := h.nconn ▸ hn
      have hc : s.conns[0]? = some s.conns[0] := List.getElem?_eq_getElem hlen
      by_cases hempty : s.conns[0].wire = [] ∧ s.conns[0].srvq = [] ∧ s.conns[0].back = []
      · exact ⟨.send 0, rfl, by simp [step, hp, hc, hr0, hempty.1, hwc]⟩
      · exact conn_progress c s h.inv hsc hbc 0 _ hc hempty
  | wire ci =>
    obtain ⟨cn, m, hc, hm, _⟩ := hst ▸ hloc
    exact conn_progress c s h.inv hsc hbc ci cn hc fun e => List.ne_nil_of_mem hm e.1
  | srv ci =>
    obtain ⟨cn, m, hc, hm, _⟩ := hst ▸ hloc
    exact conn_progress c s h.inv hsc hbc ci cn hc fun e => List.ne_nil_of_mem hm e.2.1
  | back ci =>
    obtain ⟨cn, m, hc, hm, _⟩ := hst ▸ hloc
    exact conn_progress c s h.inv hsc hbc ci cn hc fun e => List.ne_nil_of_mem hm e.2.2

theorem resultOf_of_mem {rs : List (Nat × Resp)} {k : Nat} {v : Resp} (h : (k, v) ∈ rs) :
    (resultOf rs k).isSome = true := by
  rw [resultOf, Option.isSome_map, List.find?_isSome]
  exact ⟨(k, v), h, beq_self_eq_true k⟩

theorem all_answered {c : Cfg} {s : State} (h : Inv2 c s) (hn : c.Live)
    (hrest : ∀ a, a.transport = true → step c s a = none) (k : Nat) (r : Req) (hk : s.reqs[k]? = some r) :
    (k, c.handler r.data) ∈ s.results := by
  apply Classical.byContradiction
  intro hnot
  have hu : ∀ v, (k, v) ∉ s.results := by
    intro v hv
    obtain ⟨r', hr', hv'⟩ := (h.inv.res_ok k v hv).1
    cases hk.symm.trans hr'
    exact hnot (hv' ▸ hv)
  obtain ⟨a, ha, hs⟩ := progress c s h hn.1 hn.2.1 hn.2.2.1 hn.2.2.2 k r hk hu
  rw [hrest a ha] at hs
  cases hs

theorem stream_complete {c : Cfg} {s : State} (h : Inv2 c s) (hn : c.Live)
    (hrest : ∀ a, a.internal = true → step c s a = none) :
    s.sout = s.sin.map (fun x => (x, c.handler x)) := by
  -- the head of `tasks` would have its result, so `syield` would be enabled
  have htasks : s.tasks = [] := by
    cases ht : s.tasks with
    | nil => rfl
    | cons e rest =>
      obtain ⟨r, hr, _⟩ := h.inv.task_ok e.1 e.2 (ht ▸ List.mem_cons_self)
      obtain ⟨v, hv⟩ := Option.isSome_iff_exists.1 (resultOf_of_mem
        (all_answered h hn (fun a ha => hrest a (Act.internal_of_transport ha)) e.2 r hr))
      have := hrest .syield rfl
      rw [step, ht] at this
      simp only [hv] at this
      cases this
  have hlen : s.sout.length = s.sin.length := by
    rw [← h.inv.sin_eq, htasks, List.map_nil, List.append_nil, List.length_map]
  have := h.inv.stream.sout_eq
  rwa [hlen, List.take_length] at this

def Act.server (ci : Nat) : Act → Bool
  | .srvRecv c | .finish c _ | .respond c => c == ci
  | _ => false

theorem server_local_effect (c : Cfg) (s s' : State) (a : Act) (ci : Nat) (ha : a.server ci = true)
    (hs : step c s a = some s') :
    s'.pending = s.pending ∧ s'.active = s.active ∧ s'.results = s.results ∧ s'.reqs = s.reqs ∧
    s'.tasks = s.tasks ∧ s'.sout = s.sout ∧ ∀ cj, cj ≠ ci → s'.conns[cj]? = s.conns[cj]? := by
  cases step_sound c s s' a hs with
  | srvRecv | finish | respond =>
    cases beq_iff_eq.1 ha
    exact ⟨rfl, rfl, rfl, rfl, rfl, rfl, fun cj hj => List.getElem?_set_ne (Ne.symm hj)⟩
  | _ => cases ha

def localStep (c : Cfg) (cn : Conn) : Act → Option Conn
  | .srvRecv _ =>
    match cn.wire with
    | m :: rest =>
      if cn.srvq.length < c.srvCap then
        some { cn with wire := rest, srvq := cn.srvq ++ [⟨m.rid, m.data, false, m.gk⟩] }
      else none
    | [] => none
  | .finish _ j =>
    match cn.srvq[j]? with
    | some t => if t.done then none else some { cn with srvq := cn.srvq.set j { t with done := true } }
    | none => none
  | .respond _ =>
    match cn.srvq with
    | t :: rest =>
      if t.done ∧ cn.back.length < c.backCap then
        some { cn with srvq := rest, back := cn.back ++ [⟨t.rid, c.handler t.data, t.gk⟩] }
      else none
    | [] => none
  | _ => none

theorem step_server (c : Cfg) (s : State) (a : Act) (ci : Nat) (ha : a.server ci = true) :
    (step c s a).bind (fun s => s.conns[ci]?) = (s.conns[ci]?).bind (localStep c · a) := by
  cases a with
  | srvRecv c' =>
    cases beq_iff_eq.1 ha
    simp only [step, localStep]
    cases hc : s.conns[ci]? with
    | none => rfl
    | some cn =>
      simp only [Option.bind_some]
      cases cn.wire with
      | nil => rfl
      | cons m rest =>
        simp only
        split
        · exact get_set_same hc
        · rfl
  | finish c' j =>
    cases beq_iff_eq.1 ha
    simp only [step, localStep]
    cases hc : s.conns[ci]? with
    | none => rfl
    | some cn =>
      simp only [Option.bind_some]
      cases cn.srvq[j]? with
      | none => rfl
      | some t =>
        simp only
        split
        · rfl
        · exact get_set_same hc
  | respond c' =>
    cases beq_iff_eq.1 ha
    simp only [step, localStep]
    cases hc : s.conns[ci]? with
    | none => rfl
    | some cn =>
      simp only [Option.bind_some]
      cases cn.srvq with
      | nil => rfl
      | cons t rest =>
        simp only
        split
        · exact get_set_same hc
        · rfl
  | _ => cases ha

theorem server_local_cause (c : Cfg) (s1 s2 : State) (a : Act) (ci : Nat) (ha : a.server ci = true)
    (heq : s1.conns[ci]? = s2.conns[ci]?) :
    (step c s1 a).bind (fun s => s.conns[ci]?) = (step c s2 a).bind (fun s => s.conns[ci]?) := by
  rw [step_server c s1 a ci ha, step_server c s2 a ci ha, heq]

end Mux
