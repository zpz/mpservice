import MpsVerif.Model.Lane
import MpsVerif.Core.Sys
/-! Relational presentation of `Lane.step` (one constructor per enabled case) and its soundness.
    Invariant proofs do `cases` on `Step`; the property theorems are stated over `step`/`run`. -/
namespace Lane

inductive Step (c : Cfg) : State → Act → State → Prop where
  | call {s t th m x} : s.thr[t]? = some th → th.pc = .idle →
      Step c s (.call t m x)
        (setThr s t { pc := .lock, mode := m, val := if c.isWriter t then x else 0, notified := false, fired := false })
  | acquire {s t th} : s.thr[t]? = some th → th.pc = .lock → s.owner = none →
      Step c s (.acquire t) { setThr s t { th with pc := .check } with owner := some t }
  | checkGo {s t th} : s.thr[t]? = some th → th.pc = .check → mustWait c s t = false →
      Step c s (.check t) (setThr s t { th with pc := .act })
  | checkFail {s t th} : s.thr[t]? = some th → th.pc = .check → mustWait c s t = true → th.mode = .nowait →
      Step c s (.check t) (setThr s t { th with pc := .leave (failRes c t) })
  | checkWaitW {s t th} : s.thr[t]? = some th → th.pc = .check → mustWait c s t = true → th.mode ≠ .nowait →
      c.isWriter t = true →
      Step c s (.check t) { setThr s t { th with pc := .wait, notified := false } with owner := none, nfW := s.nfW ++ [t] }
  | checkWaitR {s t th} : s.thr[t]? = some th → th.pc = .check → mustWait c s t = true → th.mode ≠ .nowait →
      c.isWriter t = false →
      Step c s (.check t) { setThr s t { th with pc := .wait, notified := false } with owner := none, neW := s.neW ++ [t] }
  | wake {s t th} : s.thr[t]? = some th → th.pc = .wait → th.notified = true →
      Step c s (.wake t) (setThr s t { th with pc := .relock true })
  | timeoutFire {s t th} : s.thr[t]? = some th → th.pc = .wait → th.mode = .timed →
      Step c s (.timeoutFire t) (setThr s t { th with pc := .relock false, fired := true })
  | reacqGot {s t th} : s.thr[t]? = some th → s.owner = none → th.pc = .relock true →
      Step c s (.reacq t) { setThr s t { th with pc := .act, notified := false } with owner := some t }
  | reacqLostW {s t th} : s.thr[t]? = some th → s.owner = none → th.pc = .relock false → c.isWriter t = true →
      Step c s (.reacq t)
        { setThr s t { th with pc := .leave (failRes c t), notified := false } with owner := some t, nfW := s.nfW.erase t }
  | reacqLostR {s t th} : s.thr[t]? = some th → s.owner = none → th.pc = .relock false → c.isWriter t = false →
      Step c s (.reacq t)
        { setThr s t { th with pc := .leave (failRes c t), notified := false } with owner := some t, neW := s.neW.erase t }
  | actW {s t th} : s.thr[t]? = some th → th.pc = .act → c.isWriter t = true →
      Step c s (.act t) { setThr s t { th with pc := .note } with q := s.q ++ [th.val], putH := s.putH ++ [th.val] }
  | actR {s t th x rest} : s.thr[t]? = some th → th.pc = .act → c.isWriter t = false → s.q = x :: rest →
      Step c s (.act t) { setThr s t { th with pc := .note, val := x } with q := rest, gotH := s.gotH ++ [x] }
  | actUnder {s t th} : s.thr[t]? = some th → th.pc = .act → c.isWriter t = false → s.q = [] →
      Step c s (.act t) (setThr s t { th with pc := .leave .under })
  | notifyWSome {s t th u rest} : s.thr[t]? = some th → th.pc = .note → c.isWriter t = true → s.neW = u :: rest →
      Step c s (.notify t)
        { setThr s t { th with pc := .leave .ok } with
          neW := rest, thr := markNotified (setThr s t { th with pc := .leave .ok }).thr u }
  | notifyWNone {s t th} : s.thr[t]? = some th → th.pc = .note → c.isWriter t = true → s.neW = [] →
      Step c s (.notify t) (setThr s t { th with pc := .leave .ok })
  | notifyRSome {s t th u rest} : s.thr[t]? = some th → th.pc = .note → c.isWriter t = false → s.nfW = u :: rest →
      Step c s (.notify t)
        { setThr s t { th with pc := .leave .ok } with
          nfW := rest, thr := markNotified (setThr s t { th with pc := .leave .ok }).thr u }
  | notifyRNone {s t th} : s.thr[t]? = some th → th.pc = .note → c.isWriter t = false → s.nfW = [] →
      Step c s (.notify t) (setThr s t { th with pc := .leave .ok })
  | unlock {s t th r} : s.thr[t]? = some th → th.pc = .leave r →
      Step c s (.unlock t) { setThr s t { th with pc := .fin r } with owner := none }
  | ret {s t th r} : s.thr[t]? = some th → th.pc = .fin r →
      Step c s (.ret t r th.val) (setThr s t { th with pc := .idle })

theorem step_sound (c : Cfg) (s s' : State) (a : Act) (h : step c s a = some s') : Step c s a s' := by
  revert s'
  fun_cases step c s a <;> intro s' h <;> cases h
  next hth hp => exact .call hth hp
  next hth hg => exact .acquire hth hg.1 hg.2
  next hth hp hw hm => exact .checkFail hth hp hw hm
  next hth hp hw _ hr hm => exact .checkWaitW hth hp hw hm hr
  next hth hp hw _ hr hm => exact .checkWaitR hth hp hw hm (Bool.eq_false_iff.mpr hr)
  next hth hp hw => exact .checkGo hth hp (Bool.eq_false_iff.mpr hw)
  next hth hg => exact .wake hth hg.1 hg.2
  next hth hg => exact .timeoutFire hth hg.1 hg.2
  next hth ho hp => exact .reacqGot hth ho hp
  next hth ho hp _ hr => exact .reacqLostW hth ho hp hr
  next hth ho hp _ hr => exact .reacqLostR hth ho hp (Bool.eq_false_iff.mpr hr)
  next hth hp hr => exact .actW hth hp hr
  next hth hp hr _ _ hq => exact .actR hth hp (Bool.eq_false_iff.mpr hr) hq
  next hth hp hr hq => exact .actUnder hth hp (Bool.eq_false_iff.mpr hr) hq
  next hth hp _ hr _ _ hq => exact .notifyWSome hth hp hr hq
  next hth hp _ hr hq => exact .notifyWNone hth hp hr hq
  next hth hp _ hr _ _ hq => exact .notifyRSome hth hp (Bool.eq_false_iff.mpr hr) hq
  next hth hp _ hr hq => exact .notifyRNone hth hp (Bool.eq_false_iff.mpr hr) hq
  next hth _ hp => exact .unlock hth hp
  next hth hg =>
    obtain ⟨hp, rfl⟩ := hg
    exact .ret hth hp

/-- the relation is exactly the step function (used for enabledness arguments) -/
theorem step_complete (c : Cfg) (s s' : State) (a : Act) (h : Step c s a s') : step c s a = some s' := by
  cases h <;> simp [step, *]

theorem th_eq {s : State} {t : Nat} {th : Thr} (h : s.thr[t]? = some th) : s.th t = th := by
  simp [State.th, List.getD_eq_getElem?_getD, h]

theorem th_set {s s' : State} {t : Nat} {th th' : Thr} (hth : s.thr[t]? = some th) (h : s'.thr = s.thr.set t th') :
    s'.th t = th' := by
  have hlt : t < s.thr.length := (List.getElem?_eq_some_iff.mp hth).1
  simp [State.th, h, hlt]

/-- the decision at the `if` (line 52 / 64): go on, raise, or park -/
theorem check_decides {c : Cfg} {s s' : State} {t : Nat} (h : step c s (.check t) = some s') :
    ((s'.th t).pc = .act ↔ mustWait c s t = false) ∧
    ((s'.th t).pc = .leave (failRes c t) ↔ mustWait c s t = true ∧ (s.th t).mode = .nowait) ∧
    ((s'.th t).pc = .wait ↔ mustWait c s t = true ∧ (s.th t).mode ≠ .nowait) := by
  cases step_sound c s s' _ h with
  | checkGo hth hp hm =>
    rw [th_set hth rfl, th_eq hth]
    simp [hm]
  | checkFail hth hp hm hmode =>
    rw [th_set hth rfl, th_eq hth]
    simp [hm, hmode]
  | checkWaitW hth hp hm hmode =>
    rw [th_set hth rfl, th_eq hth]
    simp [hm, hmode]
  | checkWaitR hth hp hm hmode =>
    rw [th_set hth rfl, th_eq hth]
    simp [hm, hmode]

theorem run_step {c : Cfg} {s s₁ s' : State} {a : Act} {as : List Act} (hs : Step c s a s₁)
    (hr : Core.run (step c) s₁ as = some s') : Core.run (step c) s (a :: as) = some s' := by
  rw [Core.run_cons, step_complete c s s₁ a hs]
  exact hr

def Reachable (c : Cfg) (s : State) : Prop := Core.Reach (step c) (init c) s

theorem reachable_inv (c : Cfg) {Inv : State → Prop} (h0 : Inv (init c))
    (hstep : ∀ s a s', Inv s → Step c s a s' → Inv s') {s : State} (hr : Reachable c s) : Inv s :=
  Core.invariant_reach (fun s a s' hi hs => hstep s a s' hi (step_sound c s s' a hs)) h0 hr

end Lane
