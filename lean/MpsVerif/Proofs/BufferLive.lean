import MpsVerif.Proofs.BufferInv
namespace Buffer

def wrank : WPc → Nat
  | .done => 0 | .putExc => 4 | .putFin => 4 | .putStop => 8 | .idle => 9 | .hold _ => 13 | .check _ => 14
def crank : CPc → Nat
  | .closed => 0 | .drain => 1 | .stopping => 2 | .needExc => 3 | .idle => 4 | .susp => 5 | .got _ => 6

/-- A queue entry weighs 3: putting one lowers the worker's rank by 4, taking one raises the consumer's by
    at most 2.  A pull costs the worker 5 ranks and is paid by the 6 of the source element. -/
def mu (c : Cfg) (s : State) : Nat :=
  6 * (c.n - s.pulled) + wrank s.wpc + 3 * s.queue.length + crank s.cpc

theorem mu_decreases {c : Cfg} {s s' : State} {a : Act} (hs : Step c s a s') :
    mu c s' < mu c s := by
  cases hs with
  | pull hf hn =>
    simp only [mu, hf, wrank]
    omega
  | srcEnd hf | srcRaise hf | wcheck hf | stopSeen hf =>
    simp only [mu, hf, wrank]
    omega
  | put hf | putFin hf | putStop hf | putExc hf =>
    simp only [mu, hf, wrank, List.length_append, List.length_singleton]
    omega
  | getItem hc hq | getFin hc hq | getStop hc hq | getExc hc hq =>
    simp only [mu, hc, hq, crank, List.length_cons]
    omega
  | yld hc | next hc | close hc | setFlag hc | joined hc =>
    simp only [mu, hc, crank]
    exact Nat.add_lt_add_left (by decide) _
  | drainPop hc hq =>
    simp only [mu, hq, List.length_cons]
    omega

theorem worker_step {c : Cfg} {s : State} (hw : WorkInv c s) (hnd : s.wpc ≠ .done)
    (hroom : s.queue.length < c.maxsize) : ∃ a s', Step c s a s' := by
  cases hf : s.wpc with
  | idle =>
    rcases Nat.lt_or_eq_of_le hw.pulled_le with hn | hn
    · exact ⟨_, _, Step.pull hf hn⟩
    · cases hse : c.srcEnd with
      | clean => exact ⟨_, _, Step.srcEnd hf hn hse⟩
      | exc => exact ⟨_, _, Step.srcRaise hf hn hse⟩
  | check i =>
    cases ht : s.flag with
    | false => exact ⟨_, _, Step.wcheck hf ht⟩
    | true => exact ⟨_, _, Step.stopSeen hf ht⟩
  | hold i => exact ⟨_, _, Step.put hf hroom⟩
  | putFin => exact ⟨_, _, Step.putFin hf hroom⟩
  | putStop => exact ⟨_, _, Step.putStop hf hroom⟩
  | putExc => exact ⟨_, _, Step.putExc hf hroom⟩
  | done => exact absurd hf hnd

theorem step_of_inv {c : Cfg} (hms : 1 ≤ c.maxsize) {s : State} (h : AllInv c s) (hnf : ¬ Final s) :
    ∃ a s', Step c s a s' := by
  cases hc : s.cpc with
  | idle =>
    have hsh := h.queue.of_idle hc
    cases hq : s.queue with
    | nil =>
      refine worker_step h.work (fun hd => ?_) (hq ▸ hms)
      rw [hq, hd] at hsh
      exact absurd hsh (Nat.ne_of_lt (expShape_done_pos c.srcEnd))
    | cons x rest =>
      cases x with
      | item i => exact ⟨_, _, Step.getItem hc hq⟩
      | fin => exact ⟨_, _, Step.getFin hc hq⟩
      | stopMark => exact ⟨_, _, Step.getStop hc hq⟩
      | excObj => exact (shape_exc_head (hq ▸ hsh) (expShape_le ..)).elim
  | got i => exact ⟨_, _, Step.yld hc⟩
  | needExc =>
    rcases shape_stop_tail (h.queue.of_needExc hc) (expShape_le ..) with ⟨hq, h2⟩ | ⟨hq, _⟩
    · exact ⟨_, _, Step.putExc (expShape_eq_two h2) (hq ▸ hms)⟩
    · exact ⟨_, _, Step.getExc hc hq⟩
  | susp => exact ⟨_, _, Step.next hc⟩
  | stopping => exact ⟨_, _, Step.setFlag hc⟩
  | drain =>
    cases hq : s.queue with
    | nil =>
      by_cases hd : s.wpc = .done
      · exact ⟨_, _, Step.joined hc hd⟩
      · exact worker_step h.work hd (hq ▸ hms)
    | cons x rest => exact ⟨_, _, Step.drainPop hc hq⟩
  | closed => exact absurd hc hnf

end Buffer
