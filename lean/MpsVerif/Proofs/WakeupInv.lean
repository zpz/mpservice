import MpsVerif.Model.Wakeup
import MpsVerif.Core.Sys
namespace Wakeup
open Core

inductive Step (c : Cfg) (s : State) : Act → State → Prop where
  | take : s.n < c.cap → Step c s .take { s with n := s.n + 1 }
  | park : c.cap ≤ s.n → Step c s .park { s with w := s.w + 1 }
  | expire : 0 < s.w → Step c s .expire { s with w := s.w - 1, x := s.x + 1 }
  | raceFire : 0 < s.nt → Step c s .raceFire { s with nt := s.nt - 1, nx := s.nx + 1 }
  | pop : 0 < s.n → Step c s .pop { s with n := s.n - 1, g := s.g + 1 }
  | post : 0 < s.g → Step c s .post { s with g := s.g - 1, t := s.t + 1 }
  | notifyNone : 0 < s.t → s.w = 0 → Step c s (.notify .none) { s with t := s.t - 1 }
  | notifyW : 0 < s.t → 0 < s.w → Step c s (.notify .w) { s with t := s.t - 1, w := s.w - 1, nt := s.nt + 1 }
  | notifyX : 0 < s.t → 0 < s.x → Step c s (.notify .x) { s with t := s.t - 1, x := s.x - 1, nx := s.nx + 1 }
  | wokenTake : 0 < s.nt ∧ s.n < c.cap → Step c s .wokenTake { s with nt := s.nt - 1, n := s.n + 1 }
  | wokenPark : 0 < s.nt ∧ c.cap ≤ s.n → Step c s .wokenPark { s with nt := s.nt - 1, w := s.w + 1 }
  | wokenLeave : 0 < s.nt → Step c s .wokenLeave { s with nt := s.nt - 1, p := s.p + 1 }
  | leaveWait : 0 < s.x → Step c s (.leaveWait false) { s with x := s.x - 1, p := s.p + 1 }
  | leaveRaced : 0 < s.nx → Step c s (.leaveWait true) { s with nx := s.nx - 1, p := s.p + 1 }
  | passOnNone : c.passOn = true ∧ 0 < s.p → s.w = 0 → Step c s (.passOn .none) { s with p := s.p - 1 }
  | passOnW : c.passOn = true ∧ 0 < s.p → 0 < s.w →
      Step c s (.passOn .w) { s with p := s.p - 1, w := s.w - 1, nt := s.nt + 1 }
  | passOnX : c.passOn = true ∧ 0 < s.p → 0 < s.x →
      Step c s (.passOn .x) { s with p := s.p - 1, x := s.x - 1, nx := s.nx + 1 }
  | giveUp : c.passOn = false ∧ 0 < s.p → Step c s .giveUp { s with p := s.p - 1 }
  | bounceNone : c.passOn = true → s.w = 0 → Step c s (.bounce .none) s
  | bounceW : c.passOn = true → 0 < s.w → Step c s (.bounce .w) { s with w := s.w - 1, nt := s.nt + 1 }
  | bounceX : c.passOn = true → 0 < s.x → Step c s (.bounce .x) { s with x := s.x - 1, nx := s.nx + 1 }

theorem step_sound {c : Cfg} {s s' : State} {a : Act} (h : step c s a = some s') : Step c s a s' := by
  cases a with
  | take | park | expire | raceFire | pop | post | wokenTake | wokenPark | wokenLeave | giveUp =>
    obtain ⟨hg, rfl⟩ := Option.ite_some_none_eq_some.mp h
    constructor
    exact hg
  | leaveWait raced =>
    cases raced with
    | false | true =>
      obtain ⟨hg, rfl⟩ := Option.ite_some_none_eq_some.mp h
      constructor
      exact hg
  | notify k | passOn k | bounce k =>
    obtain ⟨hg, h⟩ := Option.ite_none_right_eq_some.mp h
    cases k with
    | none | w | x =>
      obtain ⟨hw, rfl⟩ := Option.ite_some_none_eq_some.mp h
      constructor
      · exact hg
      · exact hw

/-- every free slot is matched by a wake-up that is still under way, as long as somebody is parked -/
def Inv (c : Cfg) (s : State) : Prop :=
  s.n ≤ c.cap ∧ (0 < s.w → c.cap ≤ s.n + s.g + s.t + s.nt + s.nx + s.p)

theorem inv_init (c : Cfg) : Inv c init := ⟨Nat.zero_le _, nofun⟩

theorem inv_step {c : Cfg} (hp : c.passOn = true) {s s' : State} {a : Act}
    (hi : Inv c s) (hs : step c s a = some s') : Inv c s' := by
  obtain ⟨hn, h⟩ := hi
  cases step_sound hs with
  | giveUp hf => exact nomatch hp.symm.trans hf.1
  | bounceNone => exact ⟨hn, h⟩
  | _ =>
    constructor
    · clear h
      simp only
      omega
    · simp only
      omega

-- A notification under way weighs 3 before it is queued (`g`), 2 when queued (`t`) or in the hands of a caller
-- about to leave (`p`).  Delivering it spends these 2 and lifts the caller it wakes by 1 (`w` 2 to `nt` 3, `x` 3
-- to `nx` 4); every other internal step moves it (`g` to `t`) or a caller (`nt` to `w` or `p`, `x` or `nx` to `p`)
-- to a lighter place, or out.
def mu (s : State) : Nat :=
  2 * s.w + 3 * s.x + 3 * s.nt + 4 * s.nx + 2 * s.p + 3 * s.g + 2 * s.t

def istep (c : Cfg) (s : State) (a : Act) : Option State :=
  if internal a then step c s a else none

theorem internal_decreases {c : Cfg} {s s' : State} {a : Act} (hs : istep c s a = some s') : mu s' < mu s := by
  obtain ⟨hint, hs⟩ := Option.ite_none_right_eq_some.mp hs
  cases step_sound hs with
  | take | park | expire | raceFire | pop | bounceNone | bounceW | bounceX => cases hint
  | _ =>
    simp +arith only [mu]
    omega

theorem quiescent_iff (c : Cfg) (s : State) :
    Quiescent s ↔ ∀ a, istep c s a = none := by
  constructor
  · intro ⟨hg, ht, hnt, hnx, hp, hx⟩ a
    cases h : istep c s a with
    | none => rfl
    | some s' =>
      obtain ⟨hint, hs⟩ := Option.ite_none_right_eq_some.mp h
      cases step_sound hs with
      | take | park | expire | raceFire | pop | bounceNone | bounceW | bounceX => cases hint
      | _ => omega
  · intro h
    have stuck : ∀ a, internal a = true → step c s a = none := fun a hi => by
      have := h a
      rwa [istep, if_pos hi] at this
    refine ⟨?_, ?_, ?_, ?_, ?_, ?_⟩
    all_goals
      apply Nat.eq_zero_of_not_pos
      intro hpos
    · exact nomatch (if_pos hpos).symm.trans (stuck .post rfl)
    · have hk := fun k => (if_pos hpos).symm.trans (stuck (.notify k) rfl)
      by_cases hw : 0 < s.w
      · exact nomatch (if_pos hw).symm.trans (hk .w)
      · exact nomatch (if_pos (Nat.eq_zero_of_not_pos hw)).symm.trans (hk .none)
    · by_cases hc : s.n < c.cap
      · exact nomatch (if_pos ⟨hpos, hc⟩).symm.trans (stuck .wokenTake rfl)
      · exact nomatch (if_pos ⟨hpos, Nat.le_of_not_lt hc⟩).symm.trans (stuck .wokenPark rfl)
    · exact nomatch (if_pos hpos).symm.trans (stuck (.leaveWait true) rfl)
    · cases hpo : c.passOn with
      | false => exact nomatch (if_pos ⟨hpo, hpos⟩).symm.trans (stuck .giveUp rfl)
      | true =>
        have hk := fun k => (if_pos ⟨hpo, hpos⟩).symm.trans (stuck (.passOn k) rfl)
        by_cases hw : 0 < s.w
        · exact nomatch (if_pos hw).symm.trans (hk .w)
        · exact nomatch (if_pos (Nat.eq_zero_of_not_pos hw)).symm.trans (hk .none)
    · exact nomatch (if_pos hpos).symm.trans (stuck (.leaveWait false) rfl)

end Wakeup
