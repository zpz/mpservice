import MpsVerif.Proofs.FifoFacts
/-!
# C05 — streams end cleanly on early stop or failure: no hang, no leak

`fifo_stream` / `parmap` part (`Buffer`: `Props/C05Buffer.lean`).  The stop position is the
`close` action (enabled after any output), failures are `preFail i`, `resErr i` and the source's
ending `srcEnd = exc`; all interleavings = all action lists; `cap ≥ 1`, `conc ≥ 1` arbitrary.
-/
namespace Fifo

/-- Every execution is finite: no action list is longer than `9·n + 9`. -/
theorem C05_fifo_terminates (c : Cfg) (as : List Act) (s : State)
    (hr : Core.run (step c) init as = some s) : as.length ≤ 9 * c.n + 9 := by
  have h : as.length + mu c s ≤ 9 * c.n + 9 := Core.length_le_measure (mu c)
    (fun s a s' hs => mu_decreases c s a s' (step_sound c s s' a hs)) as init s hr
  exact Nat.le_trans (Nat.le_add_right _ _) h

/-- Nothing blocks forever: in every reachable state that is not final some thread can move.
    With `C05_fifo_terminates`: every maximal execution reaches `Final` (iterator closed, feeder
    thread exited, pool idle). -/
theorem C05_fifo_progress (c : Cfg) (hcap : 1 ≤ c.cap) (hconc : 1 ≤ c.conc) (s : State)
    (hr : Reachable c s) (hnf : ¬ Final s) : ∃ a, (step c s a).isSome = true :=
  progress_of_inv c hcap hconc s (all_reachable c hr) hnf

/-- In a final state the feeder thread has exited and no call is pending or running. -/
theorem C05_fifo_clean (c : Cfg) (s : State) (hr : Reachable c s) (hf : Final s) :
    s.fpc = .done ∧ s.pending = [] ∧ s.running = [] :=
  ⟨(all_reachable c hr).ph.done_of_closed hf.1, hf.2.1, hf.2.2⟩

/-- The first failure in stream order reaches the consumer, after all earlier outputs:
    if the consumer was raised the exception of element `i`, it had received exactly the
    elements `0..i-1`, none of which failed, and `i` did fail. -/
theorem C05_fifo_first_failure (c : Cfg) (s : State) (hr : Reachable c s) (i : Nat)
    (hraised : s.raised = some (.item i)) :
    s.out = List.range i ∧ (∀ j < i, c.isErr j = false) ∧ c.isErr i = true ∧ i < c.n :=
  (all_reachable c hr).first_failure hraised

/-- A failing source is reported after every element it produced has been delivered. -/
theorem C05_fifo_source_failure (c : Cfg) (s : State) (hr : Reachable c s)
    (hraised : s.raised = some .src) : s.out = List.range c.n ∧ c.srcEnd = .exc :=
  (all_reachable c hr).source_failure hraised

/-- at most one exception is ever raised to the consumer, and then nothing more is delivered:
    once `raised` is set the consumer is no longer active -/
theorem C05_fifo_raise_once (c : Cfg) (s : State) (hr : Reachable c s) (hraised : s.raised ≠ none) :
    s.cpc.active = false := by
  have h := (all_reachable c hr).ph.not_raised
  cases ha : s.cpc.active with
  | false => rfl
  | true => exact absurd (h ha) hraised

/-- non-vacuity: early close after the first output with a full queue ends in `Final` -/
example :
    let c : Cfg := { n := 9, srcEnd := .clean, cap := 1, conc := 1, preFail := fun _ => false,
                     resErr := fun _ => false, returnExc := false }
    ∃ s, Reachable c s ∧ Final s ∧ s.closeReq = true ∧ s.out = [0] := by
  refine ⟨_, ⟨[.pull, .fcheck, .submit, .put, .get, .pull, .fcheck, .submit, .put, .pull, .fcheck,
              .submit, .put, .pull, .fcheck, .submit, .start 0, .finish 0, .yld, .close, .setStop,
              .drainCancel, .drainCancel, .drainEmpty, .put, .pull, .stopSeen, .putEnd, .join,
              .start 3, .finish 3], rfl⟩, ?_⟩
  decide

end Fifo
