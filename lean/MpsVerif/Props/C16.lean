import MpsVerif.Proofs.AFifoLive
/-!
# C16 — async variants give the same answers as their sync counterparts

Models: `Model/AFifo.lean` (`async_fifo_stream`, which `AsyncParmapperAsync`, `AsyncParmapper` and
`AsyncServer.stream` delegate to) and `Model/Fifo.lean` (`fifo_stream`, which `Parmapper` and
`Server.stream` delegate to).  Both take the same configuration `c : Fifo.Cfg`: input length `n`,
how the source ends, the preprocessor's failure plan `preFail`, the worker's failure plan `resErr`,
`return_exceptions`, capacity (and, for the threaded model only, concurrency).

In the async model every hand-off is a *pair* `(x, t)`: the element the consumer is told about and
the awaitable whose outcome it receives; `delivered c out` turns the delivered pairs into values
(`result c t` = the preprocessor's exception for `t` / the worker's exception for `t` / the
worker's result for `t`); with `return_x = False` the consumer sees the second components only.
`spec c k` is "element `i` with its own outcome, for `i < k`".

All theorems hold for every reachable state, i.e. for **every** action list: every completion
order of the concurrent calls (`finish j` for any running `j`), every interleaving of feeder task,
worker tasks and consumer, every capacity, every failure plan incl. the first element, both flags.
-/
namespace AFifo
open Fifo (Cfg SrcEnd Raised)

/-- order and pairing: the delivered pairs are `(0,0), (1,1), (2,2), …` — no gap, no duplicate, no
    reordering, and never another element's awaitable -/
theorem C16_async_in_order (c : Cfg) (s : State) (hr : Reachable c s) :
    s.out = (List.range s.out.length).map dup := (inv_reachable c hr).out_range

/-- every delivered pair carries the element's own awaitable, that awaitable is done, and an
    exception is delivered as a value only under `return_exceptions` -/
theorem C16_async_own_result (c : Cfg) (s : State) (hr : Reachable c s) :
    ∀ p ∈ s.out, p.2 = p.1 ∧ p.2 ∈ s.finished ∧ (c.isErr p.2 = false ∨ c.returnExc = true) := by
  have h := inv_reachable c hr
  intro p hp
  have e : p.2 = p.1 := congrArg Prod.snd (h.pair.out p hp)
  exact ⟨e, e ▸ h.sync.res.ready p.1 (List.mem_map_of_mem hp)⟩

/-- the same in the hand-off queue: every pair waiting there carries its own awaitable -/
theorem C16_async_pairing (c : Cfg) (s : State) (hr : Reachable c s) :
    (∀ x t, QItem.item x t ∈ s.queue → t = x) ∧ (∀ x t, s.cpc = .wait x t → t = x) := by
  have h := (inv_reachable c hr).pair
  exact ⟨fun _ _ hm => (h.queue hm).symm, fun _ _ hm => (h.wait hm).symm⟩

/-- exactly-once: the worker is never entered twice for the same element, was entered exactly once
    for every delivered element that passed the preprocessor, and never for a rejected element -/
theorem C16_async_exactly_once (c : Cfg) (s : State) (hr : Reachable c s) :
    s.calls.Nodup ∧
    (∀ p ∈ s.out, c.preFail p.1 = false → s.calls.count p.1 = 1) ∧
    (∀ i, c.preFail i = true → i ∉ s.calls) := by
  obtain ⟨e1, e2, e3⟩ := (inv_reachable c hr).sync.exactly_once
  exact ⟨e1, fun p hp => e2 p.1 (List.mem_map_of_mem hp), e3⟩

/-- completeness: when the iteration is over and the consumer neither closed early nor received
    an exception, it has received every element -/
theorem C16_async_complete (c : Cfg) (s : State) (hr : Reachable c s)
    (hclosed : s.cpc = .closed) (hnr : s.raised = none) (hnc : s.closeReq = false) :
    s.out = (List.range c.n).map dup := by
  have h := inv_reachable c hr
  exact h.out_eq.trans (congrArg (List.map dup) (h.sync.complete (congrArg CPc.sync hclosed) hnr hnc))

/-- **The async stream meets the specification of the sync stream (C01), as values**, after every
    action list `as`: what has been delivered is exactly "element `i` paired with element `i`'s
    own outcome" for `i = 0 … k-1`; a complete, undisturbed iteration delivers all `n` of them; and
    the worker ran exactly once per delivered non-rejected element. -/
theorem C16_async_eq_spec (c : Cfg) (as : List Act) (s : State)
    (h : Core.run (step c) init as = some s) :
    delivered c s.out = spec c s.out.length ∧
    (s.cpc = .closed → s.raised = none → s.closeReq = false → delivered c s.out = spec c c.n) ∧
    s.calls.Nodup ∧
    (∀ i < s.out.length, c.preFail i = false → s.calls.count i = 1) ∧
    (∀ i, c.preFail i = true → i ∉ s.calls) := by
  have hr : Reachable c s := ⟨as, h⟩
  have hio := C16_async_in_order c s hr
  have hspec : delivered c s.out = spec c s.out.length := by
    unfold delivered spec
    conv => lhs; rw [hio]
    simp [List.map_map, dup, Function.comp_def]
  obtain ⟨e1, e2, e3⟩ := C16_async_exactly_once c s hr
  refine ⟨hspec, ?_, e1, ?_, e3⟩
  · intro hc hn hcl
    have := C16_async_complete c s hr hc hn hcl
    have hl : s.out.length = c.n := by rw [this]; simp
    rw [hspec, hl]
  · intro i hi hp
    have hm : dup i ∈ s.out := by rw [hio]; exact List.mem_map.mpr ⟨i, by simpa using hi, rfl⟩
    exact e2 (dup i) hm hp

/-- **An element rejected by the preprocessor yields that element's own exception and never another
    element's result**: if the `k`-th element is rejected, the `k`-th delivery (if there is one) is
    `(k, preprocessor's exception for k)`, and the worker was never entered for `k`. -/
theorem C16_pre_reject_own_exception (c : Cfg) (s : State) (hr : Reachable c s) (k : Nat)
    (hk : k < s.out.length) (hp : c.preFail k = true) :
    (delivered c s.out)[k]? = some (k, .preErr k) ∧ s.out[k]? = some (k, k) ∧ k ∉ s.calls := by
  obtain ⟨as, h⟩ := hr
  obtain ⟨h1, _, _, _, h5⟩ := C16_async_eq_spec c as s h
  have hio := C16_async_in_order c s ⟨as, h⟩
  refine ⟨?_, ?_, h5 k hp⟩
  · rw [h1]; simp [spec, hk, result, hp]
  · rw [hio]; simp [hk, dup]

/-- without `return_exceptions`, the exception raised to the consumer is the one of the element
    whose turn it is — after all earlier elements have been delivered, none of which failed
    (for a rejected element `i`: its own preprocessor exception, raised in position `i`) -/
theorem C16_async_first_failure (c : Cfg) (s : State) (hr : Reachable c s) (i : Nat)
    (hraised : s.raised = some (.item i)) :
    s.out = (List.range i).map dup ∧ (∀ j < i, c.isErr j = false) ∧ c.isErr i = true ∧ i < c.n := by
  have h := inv_reachable c hr
  obtain ⟨h1, h2⟩ := h.sync.first_failure hraised
  exact ⟨h.out_eq.trans (congrArg (List.map dup) h1), h2⟩

/-- a failing source (incl. `StopRequested`) is reported after every element it produced -/
theorem C16_async_source_failure (c : Cfg) (s : State) (hr : Reachable c s)
    (hraised : s.raised = some .src) : s.out = (List.range c.n).map dup ∧ c.srcEnd = .exc := by
  have h := inv_reachable c hr
  obtain ⟨h1, h2⟩ := h.sync.source_failure hraised
  exact ⟨h.out_eq.trans (congrArg (List.map dup) h1), h2⟩

/-- **Async = sync.**  Take any two configurations that agree on the input, the way the source
    ends, the preprocessor plan, the worker's failure plan and `return_exceptions` (capacity and
    concurrency may differ), *any* action list of the async model and *any* action list of the
    sync model.  If both iterations are complete (generator returned, not closed early), then they
    delivered the same elements with the same outcomes in the same order and ended the same way
    (normally / with the same element's exception / with the source's exception): both equal
    `outcome c`, a function of the configuration alone. -/
theorem C16_async_eq_sync (ca cs : Cfg) (hn : ca.n = cs.n) (hsrc : ca.srcEnd = cs.srcEnd)
    (hpf : ca.preFail = cs.preFail) (hre : ca.resErr = cs.resErr) (hrx : ca.returnExc = cs.returnExc)
    (as : List Act) (bs : List Fifo.Act) (sa : State) (ss : Fifo.State)
    (ha : Core.run (step ca) init as = some sa) (hs : Core.run (Fifo.step cs) Fifo.init bs = some ss)
    (hca : sa.cpc = .closed) (hcs : ss.cpc = .closed)
    (hna : sa.closeReq = false) (hns : ss.closeReq = false) :
    sa.out = ss.out.map dup ∧ sa.raised = ss.raised ∧
    delivered ca sa.out = spec cs ss.out.length ∧
    (sa.out.length, sa.raised) = outcome ca := by
  have h1 := (inv_reachable ca ⟨as, ha⟩).final_outcome hca hna
  have h2 := (Fifo.all_reachable cs ⟨bs, hs⟩).final_outcome hcs hns
  rw [← Fifo.outcome_congr ca cs hn hsrc hpf hre hrx, ← h1] at h2
  simp only [Prod.mk.injEq] at h2
  have hio := C16_async_in_order ca sa ⟨as, ha⟩
  have hso := (Fifo.all_reachable cs (s := ss) ⟨bs, hs⟩).res.out_eq
  have hsp := (C16_async_eq_spec ca as sa ha).1
  refine ⟨?_, h2.2.symm, ?_, h1⟩
  · rw [hio, hso]; simp [h2.1]
  · rw [hsp, h2.1]
    unfold spec result
    simp only [hpf, hre]

/-- the same for iterations that are not complete (closed early, or still going on): whatever
    each side has delivered so far is a prefix of the same list, so after the same number of
    deliveries the two sides have delivered the same -/
theorem C16_async_eq_sync_prefix (ca cs : Cfg) (hpf : ca.preFail = cs.preFail) (hre : ca.resErr = cs.resErr)
    (sa : State) (ss : Fifo.State) (ha : Reachable ca sa) (hs : Fifo.Reachable cs ss)
    (hlen : sa.out.length = ss.out.length) :
    sa.out = ss.out.map dup ∧ delivered ca sa.out = spec cs ss.out.length := by
  have hio := C16_async_in_order ca sa ha
  have hso := (Fifo.all_reachable cs hs).res.out_eq
  obtain ⟨as, ha'⟩ := ha
  have hsp := (C16_async_eq_spec ca as sa ha').1
  refine ⟨?_, ?_⟩
  · rw [hio, hso]; simp [hlen]
  · rw [hsp, hlen]
    unfold spec result
    simp only [hpf, hre]

/-! ### The async iteration ends whenever the sync one does ("same answers" includes "an answer") -/

/-- every execution of the async model is finite: no action list is longer than `9·n + 10` -/
theorem C16_async_terminates (c : Cfg) (as : List Act) (s : State)
    (hr : Core.run (step c) init as = some s) : as.length ≤ 9 * c.n + 10 := by
  have h : as.length + mu c s ≤ 9 * c.n + 10 := Core.length_le_measure_inv (mu c) PairInv
    (fun s a s' hi hs => pair_step hi (step_sound c s s' a hs))
    (fun s a s' hi hs => mu_decreases hi (step_sound c s s' a hs)) as init s pair_init hr
  exact Nat.le_trans (Nat.le_add_right _ _) h

/-- nothing blocks forever: in every reachable state in which the async generator has not yet
    returned, the feeder task, a worker task or the consumer can move (`capacity ≥ 1`) — for every
    failure plan, source ending (incl. a failing / `StopRequested` source), stop position and
    completion order -/
theorem C16_async_progress (c : Cfg) (hcap : 1 ≤ c.cap) (s : State)
    (hr : Reachable c s) (hnf : s.cpc ≠ .closed) : ∃ a, (step c s a).isSome = true :=
  progress_of_inv c hcap s (inv_reachable c hr) hnf

/-- hence every partial run extends to a complete one (to which `C16_async_eq_sync` applies) -/
theorem C16_async_completes (c : Cfg) (hcap : 1 ≤ c.cap) (as : List Act) (s : State)
    (h : Core.run (step c) init as = some s) :
    ∃ bs s', Core.run (step c) init (as ++ bs) = some s' ∧ s'.cpc = .closed := by
  obtain ⟨bs, s', hrun, hfin⟩ := can_complete c hcap s ⟨as, h⟩
  refine ⟨bs, s', ?_, hfin⟩
  rw [Core.run_append, h]; simpa using hrun

/-- non-vacuity (spec, rejected first element): the preprocessor rejects element 0, element 1
    completes; the consumer receives `(0, PreError 0), (1, result 1)`; the worker ran for 1 only -/
example :
    let c : Cfg := { n := 2, srcEnd := .clean, cap := 1, conc := 1, preFail := fun i => i == 0,
                     resErr := fun _ => false, returnExc := true }
    ∃ s, Reachable c s ∧ s.cpc = .closed ∧ s.raised = none ∧ s.closeReq = false ∧
      delivered c s.out = [(0, .preErr 0), (1, .ok 1)] ∧ s.calls = [1] := by
  refine ⟨_, ⟨[.pull, .fcheck, .preFail, .put, .pull, .fcheck, .submit, .put, .start 1, .finish 1,
              .get, .yld, .next, .get, .yld, .next, .srcEnd, .putEnd, .get, .drainEmpty, .reap, .join],
             rfl⟩, ?_⟩
  decide

/-- non-vacuity (async = sync): element 1 fails in the worker, exceptions are not returned,
    element 1 finishes *before* element 0; both models end closed having delivered element 0 and
    raised element 1's exception -/
example :
    let c : Cfg := { n := 3, srcEnd := .clean, cap := 1, conc := 2, preFail := fun _ => false,
                     resErr := fun i => i == 1, returnExc := false }
    ∃ as bs sa ss, Core.run (step c) init as = some sa ∧ Core.run (Fifo.step c) Fifo.init bs = some ss ∧
      sa.cpc = .closed ∧ ss.cpc = .closed ∧ sa.closeReq = false ∧ ss.closeReq = false ∧
      sa.out = [(0, 0)] ∧ sa.raised = some (.item 1) ∧ outcome c = (1, some (.item 1)) := by
  refine ⟨[.pull, .fcheck, .submit, .put, .pull, .fcheck, .submit, .put, .start 0, .start 1, .finish 1,
           .finish 0, .get, .yld, .next, .get, .raiseItem, .setStop, .pull, .stopSeen, .drainEmpty,
           .reap, .putEnd, .join],
          [.pull, .fcheck, .submit, .put, .pull, .fcheck, .submit, .put, .start 0, .start 1, .finish 1,
           .finish 0, .get, .yld, .next, .get, .raiseItem, .setStop, .drainEmpty, .pull, .stopSeen,
           .putEnd, .join], _, _, rfl, rfl, ?_⟩
  decide

/-- non-vacuity (cancellation of a running task): early close while task 1 runs — it is cancelled,
    unwinds, and only then does the generator return -/
example :
    let c : Cfg := { n := 2, srcEnd := .clean, cap := 2, conc := 1, preFail := fun _ => false,
                     resErr := fun _ => false, returnExc := false }
    ∃ s, Reachable c s ∧ s.cpc = .closed ∧ s.closeReq = true ∧ s.out = [(0, 0)] ∧ s.creq = [1] ∧
      s.running = [] := by
  refine ⟨_, ⟨[.pull, .fcheck, .submit, .put, .pull, .fcheck, .submit, .put, .start 0, .start 1, .finish 0,
              .get, .yld, .close, .setStop, .drainCancelRun, .drainEmpty, .finish 1, .reap, .srcEnd,
              .putEnd, .join], rfl⟩, ?_⟩
  decide

end AFifo
