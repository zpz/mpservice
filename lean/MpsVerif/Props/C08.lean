import MpsVerif.Proofs.FifoFacts
/-!
# C08 — bounded look-ahead and bounded concurrency

`fifo_stream` / `parmap` part (the `buffer(n)` part is in `Props/C08Buffer.lean`).
For every configuration (`cap`, `conc`, stream length `n`, failure plan, flags) and every
schedule (`Reachable` quantifies over all action lists):
-/
namespace Fifo

/-- source elements pulled but not yet handed to the consumer (as an output, or as the exception
    raised in its place) never exceed `capacity + 3`. -/
theorem C08_fifo_lookahead (c : Cfg) (s : State) (hr : Reachable c s) :
    s.pulled - handed s ≤ c.cap + 3 := (all_reachable c hr).lookahead

/-- `Parmapper` instantiates `capacity = 2 * concurrency`. -/
theorem C08_parmap_lookahead (c : Cfg) (hcap : c.cap = 2 * c.conc) (s : State) (hr : Reachable c s) :
    s.pulled - handed s ≤ 2 * c.conc + 3 := by
  have := C08_fifo_lookahead c s hr; omega

/-- the hand-off queue never holds more than `capacity + 1` entries -/
theorem C08_fifo_queue_bound (c : Cfg) (s : State) (hr : Reachable c s) :
    s.queue.length ≤ c.cap + 1 := (all_reachable c hr).cnt.1

/-- no more than `concurrency` invocations of the worker function are running
    (given a pool that starts a call only when fewer than `conc` are running — the stdlib
    executor's contract, the `start` guard of the model) -/
theorem C08_concurrency (c : Cfg) (s : State) (hr : Reachable c s) :
    s.running.length ≤ c.conc := reachable_inv c (Nat.zero_le _) (conc_step c) hr

/-- independent of the pool's own limit: running calls never exceed the look-ahead bound -/
theorem C08_running_le_lookahead (c : Cfg) (s : State) (hr : Reachable c s) :
    ∀ j ∈ s.running, j < s.pulled := by
  intro j hj
  have := (all_reachable c hr).pool.lt j (List.mem_append_right _ (List.mem_append_left _ hj))
  omega

/-- non-vacuity: a reachable state in which the bound is attained
    (cap = 1, conc = 1, five elements: the consumer waits on element 0, two are queued, one is held) -/
example :
    let c : Cfg := { n := 5, srcEnd := .clean, cap := 1, conc := 1, preFail := fun _ => false,
                     resErr := fun _ => false, returnExc := false }
    ∃ s, Reachable c s ∧ s.pulled - handed s = c.cap + 3 := by
  refine ⟨_, ⟨[.pull, .fcheck, .submit, .put, .get, .pull, .fcheck, .submit, .put,
              .pull, .fcheck, .submit, .put, .pull, .fcheck, .submit], rfl⟩, ?_⟩
  decide

/-- the filling state: the consumer waits on element 0 (taken off the queue), `k` elements queued,
    every pulled element submitted to the pool and none started -/
def fillState (k : Nat) : State :=
  { pulled := 1 + k, fpc := .idle, queue := (List.range k).map (fun j => QItem.item (j + 1)),
    toStop := false, cpc := .wait 0, out := [], raised := none, closeReq := false,
    pending := List.range (1 + k), running := [], finished := [], cancelled := [], calls := [] }

theorem fill_reachable (c : Cfg) (hp : ∀ i, c.preFail i = false) (k : Nat) (hk : k ≤ c.cap + 1)
    (hn : 1 + k ≤ c.n) : Reachable c (fillState k) := by
  induction k with
  | zero =>
    have := feed_round (Core.Reach.refl (step c) init) rfl rfl hn (hp _) (Nat.succ_pos _)
    exact this.tail (a := .get) rfl
  | succ k ih =>
    have := feed_round (ih (by omega) (by omega)) rfl rfl (by simp only [fillState]; omega) (hp _)
      (by simp only [fillState, List.length_map, List.length_range]; omega)
    have e : fillState (k + 1) = { fillState k with
        pulled := (fillState k).pulled + 1, queue := (fillState k).queue ++ [.item (fillState k).pulled],
        pending := (fillState k).pending ++ [(fillState k).pulled] } := by
      simp only [fillState, List.range_succ, List.map_append, List.map_cons, List.map_nil, Nat.add_comm 1,
        Nat.add_assoc]
    exact e ▸ this

/-- **C08, tightness for every capacity**: the bound `capacity + 3` of `C08_fifo_lookahead` is
    attained for every `cap` (and every `conc`, flags, result plan) as soon as the source has
    `cap + 3` elements and no preprocessor failure shortens the run — the constant cannot be
    lowered for any capacity, not only for the sample of the `example` above. -/
theorem C08_fifo_lookahead_attained (c : Cfg) (hp : ∀ i, c.preFail i = false) (hn : c.cap + 3 ≤ c.n) :
    ∃ s, Reachable c s ∧ s.pulled - handed s = c.cap + 3 := by
  have hr := fill_reachable c hp (c.cap + 1) (Nat.le_refl _) (by omega)
  have h1 : Core.Reach (step c) init
      { fillState (c.cap + 1) with fpc := .check (1 + (c.cap + 1)), pulled := 1 + (c.cap + 1) + 1 } :=
    Core.Reach.tail hr (a := .pull) (if_pos ⟨rfl, show 1 + (c.cap + 1) < c.n by omega⟩)
  refine ⟨_, h1, ?_⟩
  simp [fillState, handed]; omega

/-- the hand-off queue does fill up to `capacity + 1` entries, for every capacity -/
theorem C08_fifo_queue_bound_attained (c : Cfg) (hp : ∀ i, c.preFail i = false) (hn : c.cap + 2 ≤ c.n) :
    ∃ s, Reachable c s ∧ s.queue.length = c.cap + 1 :=
  ⟨fillState (c.cap + 1), fill_reachable c hp (c.cap + 1) (Nat.le_refl _) (by omega), by simp [fillState]⟩
end Fifo
