import MpsVerif.Proofs.LedgerInv
/-!
# C02 (ledger half) — every request gets its own outcome

Layer 2 of the C02 argument (DESIGN §5 C02): given a servlet that behaves like the abstract box
of `Model/Ledger.lean` — it emits, once and in any order, each message it was given, carrying the
response computed from that message's own input (layer 1, `Props/C02.lean`, proves this of servlet
trees provided ids are distinct) — the server delivers to each caller the response computed from
its own input, mints ids that are never reused, and drops no response.
-/
namespace Ledger

/-- a caller that was answered got the response computed from its own request's input -/
theorem C02_own_result (c : Cfg) (callers : List Caller) (hn : AllNew callers) (s : State)
    (hr : Reachable c callers s) (r src : Nat) (h : (s.get r).pc = .done (.answered src)) : src = r :=
  (all_reachable c callers hn hr).res.answer r src h

/-- request ids are never reused: two requests never carry the same id (this discharges the
    "distinct ids" proviso of the servlet-tree contract, for all time — not only for requests
    alive simultaneously — which is what a fail-fast ensemble's stale member results need) -/
theorem C02_uid_unique (c : Cfg) (callers : List Caller) (hn : AllNew callers) (s : State)
    (hr : Reachable c callers s) (r r' u : Nat)
    (h1 : (s.get r).uid = some u) (h2 : (s.get r').uid = some u) : r = r' :=
  (all_reachable c callers hn hr).uid.inj r r' u h1 h2

/-- every message in the pipeline carries the id of the request whose input it carries, and its
    ledger entry is present: no response can miss its entry, none is dropped -/
theorem C02_no_response_dropped (c : Cfg) (callers : List Caller) (hn : AllNew callers) (s : State)
    (hr : Reachable c callers s) :
    s.dropped = [] ∧ ∀ e, (e ∈ s.inflight ∨ e ∈ s.outq) → (s.get e.2).uid = some e.1 ∧ e ∈ s.ledger := by
  have h := (all_reachable c callers hn hr).cons
  exact ⟨h.dropped, fun (u, r) he =>
    ⟨(h.msg u r (List.mem_append.mpr he)).1, (h.entry u r).mpr (.inl (List.mem_append.mpr he))⟩⟩

/-- at most one response per request is in the pipeline at any time -/
theorem C02_one_response (c : Cfg) (callers : List Caller) (hn : AllNew callers) (s : State)
    (hr : Reachable c callers s) : (s.inflight ++ s.outq).Nodup :=
  (all_reachable c callers hn hr).cons.once

/-- non-vacuity: two callers whose responses come out in the opposite order of their requests are
    each answered with their own -/
example :
    let c : Cfg := { cap := 2, guardSet := true }
    ∃ s, Reachable c [{}, {}] s ∧ (s.get 0).pc = .done (.answered 0) ∧ (s.get 1).pc = .done (.answered 1) := by
  refine ⟨_, ⟨[.mint 0, .acquire 0, .testPass 0, .insert 0, .enqueue 0,
              .mint 1, .acquire 1, .testPass 1, .insert 1, .enqueue 1,
              .emit 1 1, .emit 0 0, .pop 1 1, .gcheck, .gset, .pop 0 0, .gcheck, .gset, .receive 0, .receive 1], rfl⟩, ?_⟩
  decide

end Ledger
