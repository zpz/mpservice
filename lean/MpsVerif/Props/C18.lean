import MpsVerif.Proofs.FrameChunks
import MpsVerif.Proofs.MuxLive
import MpsVerif.Proofs.Pipe
/-!
# C18 — socket and pipe transports deliver intact and to the right request

Part 1 (framing, `Model/Frame.lean`): whatever `write_record` wrote, `read_record` reads back —
same request id, same encoder, byte-identical payload — for arbitrary payload bytes (newlines,
header look-alikes, empty, any length) and any number of records back to back; a cut stream never
yields a phantom record; and chunk boundaries of the transport cannot matter (`C18_frame_chunking`:
a buffering reader whose reads wait while incomplete gets exactly what `decodeStream` gets from the
concatenation; that `asyncio.StreamReader` is such a reader is checked by the tie on many chunkings).
-/
namespace Frame

/-- One `read_record` on a stream that starts with `write_record r` returns exactly `r` and leaves
    exactly the bytes that followed it (whatever they are). -/
theorem C18_frame_first (lim : Nat) (r : Rec) (rest : Bytes)
    (hid : wellFormedId r.rid) (hlim : (headerLine r).length ≤ lim) :
    readRecord lim (encodeRecord r ++ rest) = .ok r rest :=
  readRecord_encode lim r rest ⟨hid, hlim⟩

/-- Any number of records written back to back are read back exactly, in order, and the reader then
    sees a clean end of stream.  `lim` is the `StreamReader` limit (2**16 by default); the guard
    "the header line fits the limit" is the one the real reader has. -/
theorem C18_frame_roundtrip (lim : Nat) (rs : List Rec)
    (hw : ∀ r ∈ rs, wellFormedId r.rid ∧ (headerLine r).length ≤ lim) :
    decodeStream lim (rs.flatMap encodeRecord) = (rs, .eof) := by
  have := decodeStream_encode lim rs hw []
  rwa [List.append_nil, decodeStream_nil, List.append_nil] at this

/-- A stream that is cut anywhere inside a record (the peer died mid-write) yields exactly the
    records before the cut and then an incomplete read — never a phantom or damaged record. -/
theorem C18_frame_truncated (lim : Nat) (rs : List Rec) (r : Rec) (p q : Bytes)
    (hw : ∀ x ∈ rs, wellFormedId x.rid ∧ (headerLine x).length ≤ lim)
    (hr : wellFormedId r.rid ∧ (headerLine r).length ≤ lim)
    (hcut : encodeRecord r = p ++ q) (hp : p ≠ []) (hq : q ≠ []) :
    decodeStream lim (rs.flatMap encodeRecord ++ p) = (rs, .incomplete) := by
  have hp : decodeStream lim p = ([], .incomplete) := by
    rw [decodeStream_eq, readRecord_prefix lim r hr p q hcut hp hq]
  have := decodeStream_encode lim rs hw p
  rwa [hp, List.append_nil] at this

/-- Chunk boundaries cannot matter: once a record can be read from the bytes received so far, exactly
    the same record is read from any extension of them and exactly the extension is added to what is
    left — a reader that waits while a read is incomplete returns the same records however the
    transport cuts the stream. -/
theorem C18_frame_prefix_stable (lim : Nat) (bs x rest : Bytes) (r : Rec)
    (h : readRecord lim bs = .ok r rest) : readRecord lim (bs ++ x) = .ok r (rest ++ x) := by
  have := readRecord_append lim bs x
  rw [h] at this
  exact this.2

/-- Chunking is irrelevant, for **every** byte stream (well formed or not) and **every** way the
    transport cuts it: a reader that buffers what arrives and lets `read_record` wait while a read is
    incomplete (`Model/Frame.lean`, `Reader`) returns exactly the records, and ends exactly the way,
    `decodeStream` does on the concatenation. -/
theorem C18_frame_chunking (lim : Nat) (chunks : List Bytes) :
    readChunks lim chunks = decodeStream lim chunks.flatten :=
  readChunks_eq lim chunks

/-- hence: whatever the chunk boundaries, written records are read back exactly -/
theorem C18_frame_roundtrip_chunked (lim : Nat) (rs : List Rec) (chunks : List Bytes)
    (hw : ∀ r ∈ rs, wellFormedId r.rid ∧ (headerLine r).length ≤ lim)
    (hc : chunks.flatten = rs.flatMap encodeRecord) :
    readChunks lim chunks = (rs, .eof) := by
  rw [C18_frame_chunking, hc]; exact C18_frame_roundtrip lim rs hw

/-- non-vacuity: a payload that looks like a header and contains newlines, an empty payload and a
    plain one, back to back, with ids `7`, `x/1`, `140230` -/
example :
    let r1 : Rec := { rid := [55], enc := .none, payload := [55, 32, 51, 32, 110, 111, 110, 101, 10, 10, 97] }
    let r2 : Rec := { rid := [120, 47, 49], enc := .pickle, payload := [] }
    let r3 : Rec := { rid := [49, 52, 48, 50, 51, 48], enc := .utf8, payload := [10] }
    decodeStream 64 (encodeStream [r1, r2, r3]) = ([r1, r2, r3], .eof)
    ∧ (∀ r ∈ [r1, r2, r3], wellFormedId r.rid ∧ (headerLine r).length ≤ 64)
    ∧ encodeRecord r1 = [55, 32, 49, 49, 32, 110, 111, 110, 101, 10,
                         55, 32, 51, 32, 110, 111, 110, 101, 10, 10, 97]
    ∧ decodeStream 64 (encodeStream [r1, r2] ++ (encodeRecord r3).take 9) = ([r1, r2], .incomplete)
    -- the same stream arriving one byte at a time
    ∧ readChunks 64 ((encodeStream [r1, r2, r3]).map (fun b => [b])) = ([r1, r2, r3], .eof) := by
  decide

end Frame

/-!
Part 2 (multiplexing, `Model/Mux.lean`): any number of requesters, any number of connections, every
interleaving of client senders/receivers, server receivers/responders and handler completions
(`∀` action lists), every handler function, every id the allocator may legally hand out.
-/
namespace Mux

/-- Every future that has been set holds the handler's response (or exception) to **its own**
    payload — whatever the completion order of the handlers and whichever connections were used. -/
theorem C18_mux_own_response (c : Cfg) (s : State) (hr : Reachable c s) :
    ∀ k v, (k, v) ∈ s.results → ∃ r, s.reqs[k]? = some r ∧ v = c.handler r.data :=
  fun k v h => ((all_reachable c hr).res_ok k v h).1

/-- The payload reaches the routed handler intact: every handler invocation the server has started
    (a task in a connection's queue) was given exactly the payload of the request that is registered
    at the client under the record's id. -/
theorem C18_mux_handler_payload (c : Cfg) (s : State) (hr : Reachable c s) (ci : Nat) (cn : Conn) (t : Task)
    (hc : s.conns[ci]? = some cn) (ht : t ∈ cn.srvq) :
    ∃ k q, lookup s.active t.rid = some k ∧ s.reqs[k]? = some q ∧ t.data = q.data := by
  have hi := all_reachable c hr
  obtain ⟨h1, ⟨q, hq, hd⟩, _⟩ := hi.srv_ok ci cn hc t ht
  exact ⟨t.gk, q, lookup_of_mem hi.act_keys h1, hq, hd.symm⟩

/-- No future is set twice: a response goes to exactly one request. -/
theorem C18_mux_at_most_once (c : Cfg) (s : State) (hr : Reachable c s) :
    (s.results.map Prod.fst).Nodup := (all_reachable c hr).res_nd

/-- The id-minting rule (a new Future's `id()` differs from the ids of the futures still unresolved)
    makes the request ids in use distinct: the keys of `active` are distinct, each key is the id of
    the future stored under it, and two requests that both have no result yet never share an id
    (ids may be, and in the non-vacuity example are, reused once their owner has been resolved). -/
theorem C18_mux_ids_distinct (c : Cfg) (s : State) (hr : Reachable c s) :
    (s.active.map Prod.fst).Nodup ∧
    (∀ rid k, (rid, k) ∈ s.active → ∃ r, s.reqs[k]? = some r ∧ r.id = rid) ∧
    (∀ k1 k2 r1 r2, s.reqs[k1]? = some r1 → s.reqs[k2]? = some r2 →
      (∀ v, (k1, v) ∉ s.results) → (∀ v, (k2, v) ∉ s.results) → r1.id = r2.id → k1 = k2) := by
  have h2 := all_reachable2 c hr
  exact ⟨h2.inv.act_keys, fun rid k h => (h2.inv.act_ok rid k h).1, fun k1 k2 r1 r2 hk1 hk2 hu1 hu2 =>
    h2.inv.ids_inj k1 k2 r1 r2 hk1 hk2 (h2.loc.unresolved hk1 hu1) (h2.loc.unresolved hk2 hu2)⟩

/-- A response that arrives at the client always finds its request registered (`active.pop` never
    raises `KeyError`, the receiving task never dies on an unmatched id), and the record carries the
    handler's response to the payload of exactly the future it is matched with. -/
theorem C18_mux_no_unmatched (c : Cfg) (s : State) (hr : Reachable c s) (ci : Nat) (cn : Conn)
    (r : Rsp) (rest : List Rsp) (hc : s.conns[ci]? = some cn) (hb : cn.back = r :: rest) :
    ∃ k q, lookup s.active r.rid = some k ∧ s.reqs[k]? = some q ∧ r.resp = c.handler q.data ∧
      (step c s (.recv ci)).isSome = true := by
  have hi := all_reachable c hr
  obtain ⟨_, ⟨q, hq, hresp⟩, _⟩ := hi.back_ok ci cn hc r (hb ▸ List.mem_cons_self)
  exact ⟨r.gk, q, (recv_enabled hi hc hb).1, hq, hresp, (recv_enabled hi hc hb).2⟩

/-- `stream()` preserves input order: the outputs so far are exactly the first inputs, in order,
    each paired with the handler's response to it — for any other traffic on the same client. -/
theorem C18_stream_order (c : Cfg) (s : State) (hr : Reachable c s) :
    s.sout = (s.sin.take s.sout.length).map (fun x => (x, c.handler x)) :=
  (all_reachable c hr).stream.sout_eq

/-- Progress: as long as some request has no result, some transport action (a client sender or
    receiver, the server's receiver or responder, or a handler completion) is enabled — no state in
    which a request is stuck, whatever the completion order so far and **whatever the sizes of the
    bounded buffers** (`Cfg.Live`: at least one connection, every capacity ≥ 1): flow control
    (`drain`, the server's `backlog`) cannot wedge the transport. -/
theorem C18_mux_progress (c : Cfg) (s : State) (hr : Reachable c s) (hcap : c.Live) (k : Nat) (r : Req)
    (hk : s.reqs[k]? = some r) (hu : ∀ v, (k, v) ∉ s.results) :
    ∃ a, a.transport = true ∧ (step c s a).isSome = true :=
  progress c s (all_reachable2 c hr) hcap.1 hcap.2.1 hcap.2.2.1 hcap.2.2.2 k r hk hu

/-- Bounded work: from any state, an execution without new requests has at most `measure s` steps
    (5 per pending request, 4/3/2/1 per request on the wire / running / done / answered, 1 per
    pending stream output).  With progress: every request is answered after finitely many steps of
    any schedule that keeps moving; no fairness assumption is needed. -/
theorem C18_mux_terminates (c : Cfg) (s s' : State) (as : List Act) (hint : ∀ a ∈ as, a.internal = true)
    (hrun : Core.run (step c) s as = some s') : as.length + measure s' ≤ measure s :=
  internal_run_bounded c as s s' hint hrun

/-- When the transport has come to rest, **every** request that was made holds the handler's
    response to its own payload: nothing is lost, nothing is crossed. -/
theorem C18_mux_all_answered (c : Cfg) (s : State) (hr : Reachable c s) (hn : c.Live)
    (hrest : ∀ a, a.transport = true → step c s a = none) :
    ∀ k r, s.reqs[k]? = some r → (k, c.handler r.data) ∈ s.results :=
  all_answered (all_reachable2 c hr) hn hrest

/-- When everything has come to rest (the stream consumer included), the stream has yielded every
    input, in order, each with its own response. -/
theorem C18_stream_complete (c : Cfg) (s : State) (hr : Reachable c s) (hn : c.Live)
    (hrest : ∀ a, a.internal = true → step c s a = none) :
    s.sout = s.sin.map (fun x => (x, c.handler x)) :=
  stream_complete (all_reachable2 c hr) hn hrest

/-- The server keeps no state across connections: an action of the server on connection `ci`
    (read a record, a handler completes, write a response) changes nothing but that connection, and
    whether it is enabled and what it does to the connection is a function of that connection alone.
    (This is why several clients on one server do not interact: request ids only need to be distinct
    per client; the model itself has one client.) -/
theorem C18_mux_server_local (c : Cfg) (ci : Nat) (a : Act) (ha : a.server ci = true) :
    (∀ s s', step c s a = some s' →
      s'.pending = s.pending ∧ s'.active = s.active ∧ s'.results = s.results ∧ s'.reqs = s.reqs ∧
      s'.tasks = s.tasks ∧ s'.sout = s.sout ∧ ∀ cj, cj ≠ ci → s'.conns[cj]? = s.conns[cj]?) ∧
    (∀ s1 s2, s1.conns[ci]? = s2.conns[ci]? →
      (step c s1 a).bind (fun s => s.conns[ci]?) = (step c s2 a).bind (fun s => s.conns[ci]?)) :=
  ⟨fun s s' hs => server_local_effect c s s' a ci ha hs, fun s1 s2 h => server_local_cause c s1 s2 a ci ha h⟩

/-- non-vacuity: two connections, four requests (one through `stream`), the handlers complete out
    of order (request 2 before request 0, request 1 answered first), id `100` is reused after its
    first owner was resolved; every future holds its own response.  Small buffer capacities. -/
example :
    let c : Cfg := { nconn := 2, handler := fun x => if x % 2 = 0 then .ok (x * 10) else .err x,
                     pendCap := 3, wireCap := 2, srvCap := 2, backCap := 1 }
    (Core.run (step c) (init c)
      [.submit 5 100, .submit 6 200, .ssubmit 7 300, .send 0, .send 1, .send 0, .srvRecv 0, .srvRecv 0,
       .srvRecv 1, .finish 0 1, .finish 1 0, .respond 1, .recv 1, .finish 0 0, .respond 0, .recv 0,
       .respond 0, .recv 0, .syield, .submit 8 100, .send 1, .srvRecv 1, .finish 1 0, .respond 1, .recv 1]).map
      (fun s => (s.results, s.sout, s.active, s.reqs.map (·.id)))
    = some ([(1, .ok 60), (0, .err 5), (2, .err 7), (3, .ok 80)], [(7, .err 7)], [], [100, 200, 300, 100])
    -- the bounded buffers bite: with room for one record on the way back, a second response must wait
    ∧ Core.run (step c) (init c)
      [.submit 5 100, .submit 6 200, .send 0, .send 0, .srvRecv 0, .srvRecv 0, .finish 0 0, .finish 0 1,
       .respond 0, .respond 0] = none := by
  decide

end Mux

/-!
Part 3 (named pipe, `Model/Pipe.lean`): two FIFOs with crossed roles carrying
`multiprocessing.Connection` messages; any interleaving of sends, partial kernel writes and receives
on both endpoints.
-/
namespace Pipe

/-- What an endpoint has received is exactly the first messages its **peer** sent (never its own),
    byte-identical and in order — in both directions, for every interleaving and every chunking of
    the writes. -/
theorem C18_pipe_fifo (s : State) (hr : Reachable s) (r : Role) :
    s.rcvdBy r = (s.sentBy (peer r)).take (s.rcvdBy r).length := by
  rw [State.sentBy, wpath_peer]
  exact (inv_chan (all_reachable hr) (rpath r)).pref

/-- Nothing is lost or stuck: once the peer's `send` calls have returned (all bytes written), a
    message sent and not yet received can be received. -/
theorem C18_pipe_no_loss (s : State) (hr : Reachable s) (r : Role)
    (hidle : (s.chan (wpath (peer r))).outbuf = [])
    (hlt : (s.rcvdBy r).length < (s.sentBy (peer r)).length) :
    (step s (.recv r)).isSome = true := by
  have hc := inv_chan (all_reachable hr) (rpath r)
  rw [State.rcvdBy, State.sentBy, wpath_peer] at hlt
  rw [wpath_peer] at hidle
  -- the unread bytes are all in the kernel buffer, and they begin with the frame of the next message
  have hb := hc.unread hlt
  rw [hidle, List.append_nil] at hb
  simp only [step, hb]
  rw [readFrame_frame _ _ (hc.len _ (List.getElem_mem hlt))]
  rfl

/-- non-vacuity: both directions at once, a message containing what looks like a length header, an
    empty message, writes taken by the kernel in pieces; a receive before the bytes are complete is
    not enabled -/
example :
    let acts : List Act :=
      [.send .server [0, 0, 0, 1, 7], .flush .server 2, .send .client [9], .flush .server 5, .recv .client,
       .send .server [], .flush .client 4, .flush .server 3, .recv .server, .recv .client]
    (Core.run step init acts).map (fun s => (s.rcvdBy .client, s.rcvdBy .server, s.sentBy .server, s.sentBy .client))
      = some ([[0, 0, 0, 1, 7], []], [[9]], [[0, 0, 0, 1, 7], []], [[9]])
    ∧ Core.run step init [.send .server [0, 0, 0, 1, 7], .flush .server 2, .recv .client] = none := by
  decide

end Pipe
