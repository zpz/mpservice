import MpsVerif.Proofs.EagerGreedy
/-!
# C19 — EagerBatcher partitions its input and waits no longer than told

Model: `Model/EagerBatcher.lean` (timed transition system written from `EagerBatcher.__iter__`).
All theorems are about `Core.run (step c) init as`, the definitions the driver `drv eager`
executes, for **every** action list `as` — every interleaving of arrivals (`arrive x`, items and
end markers, also after the marker), passing time (`tick d`), the batcher's own steps and the
consumer's `resume` — every `batch_size ≥ 1`, every `batch_wait_time ≥ 0` (`c.wait : Nat`) and
every end marker `c.endm` (`none` = default `None`; `some e` = custom marker, then `None` is an
ordinary item).

Reading guide: `s.out` = the batches handed to the consumer so far, `s.cur` = the batch being
collected, `s.q` = the queue, `s.arrived` = every arrival with the clock value at which it
happened, `s.taken` = what the batcher's gets returned, `s.t0` = the clock value at which the first
item of `s.cur` was obtained (see `C19_t0_meaning`), `s.fin` = the end marker has been taken,
`beforeEnd c l` = the items of `l` before the first end marker,
`arrivedBefore s t` = the number of arrivals stamped `< t`, `s.takenAt` / `s.outAt` = `s.taken` /
`s.out` with the clock of each get / hand-over, `greedy` = the closed form (end of the model file),
`c.strict` = zero processing time (time passes only while the batcher is blocked).
-/
namespace Eager

/-- **Partition** (any moment of any run): the batches handed out so far, then the batch being
    collected, then what is queued before the end marker (nothing once the marker has been taken)
    are exactly the items that arrived before the first end marker, in arrival order. -/
theorem C19_partition (c : Cfg) (hbs : 1 ≤ c.bs) (as : List Act) (s : State)
    (h : Core.run (step c) init as = some s) :
    s.out.flatten ++ s.cur ++ (if s.fin = true then [] else beforeEnd c s.q)
      = beforeEnd c (s.arrived.map (·.1)) := by
  have hi := all_reachable c hbs ⟨as, h⟩
  have hpos : ∀ a ∈ s.out.flatten ++ s.cur, (fun x => !c.isEnd x) a = true := by
    intro a ha; simp [hi.noEnd a ha]
  rw [hi.arr, hi.tak]
  unfold beforeEnd
  rw [List.append_assoc (s.out.flatten ++ s.cur), List.takeWhile_append_of_pos hpos]
  congr 1
  by_cases hf : s.fin = true
  · simp [hf, Cfg.isEnd]
  · simp [hf]

/-- every batch handed out has between 1 and `batch_size` items -/
theorem C19_batch_sizes (c : Cfg) (hbs : 1 ≤ c.bs) (as : List Act) (s : State)
    (h : Core.run (step c) init as = some s) :
    ∀ b ∈ s.out, 1 ≤ b.length ∧ b.length ≤ c.bs :=
  (all_reachable c hbs ⟨as, h⟩).sizes

/-- when the generator has finished, the concatenation of the batches is exactly the sequence of
    items that arrived before the end marker (whatever arrived after it is left alone) -/
theorem C19_partition_done (c : Cfg) (hbs : 1 ≤ c.bs) (as : List Act) (s : State)
    (h : Core.run (step c) init as = some s) (hd : s.pc = .done) :
    s.out.flatten = beforeEnd c (s.arrived.map (·.1)) := by
  have hi := all_reachable c hbs ⟨as, h⟩
  have := C19_partition c hbs as s h
  obtain ⟨hc, hf⟩ := hi.done hd
  simpa [hc, hf] using this

/-- when no end marker has come and the batcher waits for the first item of a new batch on an empty
    queue, everything that ever arrived has been handed out -/
theorem C19_partition_waiting (c : Cfg) (hbs : 1 ≤ c.bs) (as : List Act) (s : State)
    (h : Core.run (step c) init as = some s) (hp : s.pc = .idle) (hq : s.q = []) :
    s.out.flatten = s.arrived.map (·.1) := by
  have hi := all_reachable c hbs ⟨as, h⟩
  obtain ⟨hc, hf⟩ := hi.idle hp
  rw [hi.arr, hi.tak]; simp [hc, hf, hq]

/-- the batcher is never stuck: in every state (reachable or not) the generator is finished, or waits for a
    first item on an empty queue (only the producer can help), or waits in the timed `get` on an empty
    queue before the deadline (then time can pass, up to the deadline exactly), or one of
    `take`/`timeout`/`emit`/`resume`/`stop` is enabled.  In particular a queued item or end marker is
    always takeable while the batcher is in one of its two gets. -/
theorem C19_no_stall (c : Cfg) (s : State) :
    s.pc = .done ∨ (s.pc = .idle ∧ s.q = []) ∨
    (s.pc = .coll ∧ s.q = [] ∧ s.clock < s.t0 + c.wait ∧
      (step c s (.tick (s.t0 + c.wait - s.clock))).isSome) ∨
    (∃ a ∈ [Act.take, .timeout, .emit, .resume, .stop], (step c s a).isSome) := by
  have take (hp : s.pc = .idle ∨ s.pc = .coll) (hq : s.q ≠ []) :
      ∃ a ∈ [Act.take, .timeout, .emit, .resume, .stop], (step c s a).isSome :=
    ⟨.take, .head _, take_isSome.mpr ⟨hq, hp⟩⟩
  cases hpc : s.pc with
  | done => exact .inl rfl
  | idle =>
    by_cases hq : s.q = []
    · exact .inr (.inl ⟨rfl, hq⟩)
    · exact .inr (.inr (.inr (take (.inl hpc) hq)))
  | coll =>
    by_cases hq : s.q = []
    · by_cases ht : s.clock < s.t0 + c.wait
      · exact .inr (.inr (.inl ⟨rfl, hq, ht, tick_isSome.mpr ⟨Nat.sub_pos_of_lt ht,
          .inr (.inr (.inl ⟨hpc, hq, Nat.le_of_eq (Nat.add_sub_of_le (Nat.le_of_lt ht))⟩))⟩⟩))
      · exact .inr (.inr (.inr ⟨.timeout, .tail _ (.head _),
          timeout_isSome.mpr ⟨hpc, hq, Nat.le_of_not_lt ht⟩⟩))
    · exact .inr (.inr (.inr (take (.inr hpc) hq)))
  | flush => exact .inr (.inr (.inr ⟨.emit, .tail _ (.tail _ (.head _)), emit_isSome.mpr hpc⟩))
  | held =>
    exact .inr (.inr (.inr ⟨.resume, .tail _ (.tail _ (.tail _ (.head _))), resume_isSome.mpr hpc⟩))
  | closing =>
    exact .inr (.inr (.inr ⟨.stop, .tail _ (.tail _ (.tail _ (.tail _ (.head _)))), stop_isSome.mpr hpc⟩))

/-- meaning of `t0`: it is set to the current clock by exactly the step that starts a batch (the
    `take` that obtains its first item) and is not touched while the batch exists -/
theorem C19_t0_meaning (c : Cfg) (hbs : 1 ≤ c.bs) (as : List Act) (s s' : State) (a : Act)
    (h : Core.run (step c) init as = some s) (hst : step c s a = some s') :
    (s.cur = [] → s'.cur ≠ [] → a = .take ∧ s'.t0 = s.clock ∧ s'.cur = s.q.take 1) ∧
    (s.cur ≠ [] → s'.cur ≠ [] → s'.t0 = s.t0) := by
  have hi := all_reachable c hbs ⟨as, h⟩
  -- only the two takes of an item and `emit` touch `cur`, only the first of them `t0`
  cases step_sound c s s' a hst with
  | takeIdleItem hq hpc he =>
    exact ⟨fun _ _ => ⟨rfl, rfl, by rw [hq]; rfl⟩, fun h => absurd (hi.idle hpc).1 h⟩
  | takeCollItem hq hpc he =>
    exact ⟨fun h => absurd h (List.ne_nil_of_length_pos (hi.coll hpc).1), fun _ _ => rfl⟩
  | emit hpc => exact ⟨fun _ h => absurd rfl h, fun _ h => absurd rfl h⟩
  | _ => exact ⟨fun h h' => absurd h h', fun _ _ => rfl⟩

/-- **A short batch only at the end marker or at expiry, and then nothing was missed.**
    Whenever a batch with fewer than `batch_size` items is handed out (the `emit` step from `s`; the
    batch is `s.cur`), either the end marker has just been taken — it is the last thing the batcher
    took, right after the items of this batch — or the wait has expired (clock ≥ `t0 + wait`, `t0` =
    when the batch's first item was obtained; with zero processing time the clock stands *exactly* at
    `t0 + wait`) and every arrival stamped before `t0 + wait` is already in this or an earlier batch:
    no further item arrived within the wait time.  Holds for `strict` and non-`strict` time alike. -/
theorem C19_short_only_if (c : Cfg) (hbs : 1 ≤ c.bs) (as : List Act) (s s' : State)
    (h : Core.run (step c) init as = some s) (he : step c s .emit = some s')
    (hshort : s.cur.length < c.bs) :
    s'.out = s.out ++ [s.cur] ∧
    ((s.fin = true ∧ s.taken = s.out.flatten ++ s.cur ++ [c.endm]) ∨
     (s.fin = false ∧ s.t0 + c.wait ≤ s.clock ∧ (c.strict = true → s.clock = s.t0 + c.wait) ∧
        arrivedBefore s (s.t0 + c.wait) ≤ (s.out.flatten ++ s.cur).length)) := by
  have hi := all_reachable c hbs ⟨as, h⟩
  have htak := hi.tak
  cases step_sound c s s' .emit he with
  | emit hpc =>
    refine ⟨rfl, ?_⟩
    cases hf : s.fin with
    | true =>
      rw [hf] at htak
      exact .inl ⟨rfl, htak⟩
    | false =>
      obtain ⟨h4, h4', h5⟩ := (hi.flush hpc).2.2 hf hshort
      rw [tak_of_not_fin hi hf] at h5
      exact .inr ⟨rfl, h4, h4', h5⟩

/-- … and the future cannot change that: in every continuation of the run after a short batch was
    handed out at expiry, the number of arrivals stamped before `t0 + wait` is still at most the number
    of items delivered up to and including that batch (later arrivals are stamped ≥ `t0 + wait`). -/
theorem C19_short_only_if_forever (c : Cfg) (hbs : 1 ≤ c.bs) (as bs : List Act) (s s' s2 : State)
    (h : Core.run (step c) init as = some s) (he : step c s .emit = some s')
    (hshort : s.cur.length < c.bs) (hf : s.fin = false)
    (h2 : Core.run (step c) s' bs = some s2) :
    arrivedBefore s2 (s.t0 + c.wait) ≤ (s.out.flatten ++ s.cur).length := by
  obtain ⟨_, h1 | h1⟩ := C19_short_only_if c hbs as s s' h he hshort
  · simp [hf] at h1
  · obtain ⟨_, hc, _, hb⟩ := h1
    have hrun : Core.run (step c) s (.emit :: bs) = some s2 := by
      rw [Core.run_cons, he]; simpa using h2
    rw [arrivedBefore_stable c (.emit :: bs) s s2 _ hrun (by omega)]
    exact hb

/-- the same fact at the moment of detection (the form used in DESIGN §5): a step that ends the
    collection of a batch with fewer than `batch_size` items is either the `take` of an end marker or a
    `timeout`, and the latter only with an empty queue at a clock value ≥ `t0 + wait` — at that moment
    everything that has arrived so far (whatever its stamp, ties included) is in an earlier batch or in
    this one -/
theorem C19_short_only_if_detect (c : Cfg) (hbs : 1 ≤ c.bs) (as : List Act) (s s' : State) (a : Act)
    (h : Core.run (step c) init as = some s)
    (hst : step c s a = some s') (h1 : s.pc ≠ .flush) (h2 : s'.pc = .flush)
    (hshort : s'.cur.length < c.bs) :
    (a = .take ∧ ∃ z rest, s.q = z :: rest ∧ c.isEnd z = true ∧ s'.fin = true) ∨
    (a = .timeout ∧ s.q = [] ∧ s.t0 + c.wait ≤ s.clock ∧
      s.arrived.map (·.1) = s.out.flatten ++ s.cur ∧ s'.cur = s.cur) := by
  have hi := all_reachable c hbs ⟨as, h⟩
  have hs := step_sound c s s' a hst
  cases hs with
  | arrive x => exact absurd h2 h1
  | tick d hd hg => exact absurd h2 h1
  | takeIdleEnd hq hpc he => cases h2
  | takeIdleItem hq hpc he =>
    -- a short batch is still being collected
    rw [if_pos (show 1 < c.bs from hshort)] at h2
    cases h2
  | takeCollEnd hq hpc he => exact .inl ⟨rfl, _, _, hq, he, rfl⟩
  | takeCollItem hq hpc he =>
    replace hshort : (s.cur ++ [_]).length < c.bs := hshort
    rw [List.length_append] at hshort
    rw [if_pos (show s.cur.length + 1 < c.bs from hshort)] at h2
    cases h2
  | timeout hpc hq ht =>
    refine .inr ⟨rfl, hq, ht, ?_, rfl⟩
    rw [hi.arr, tak_of_not_fin hi (hi.coll hpc).2.2.1, hq]
    exact List.append_nil _
  | emit hpc => cases h2
  | resume hpc =>
    replace h2 : (if s.fin = true then Pc.closing else Pc.idle) = Pc.flush := h2
    split at h2 <;> cases h2
  | stop hpc => cases h2

/-- **No delay** (zero processing time, `c.strict`).  Once the batch is complete, expired or cut by
    the end marker (`flush`), or the generator is on its way out (`closing`), no time can pass before
    the batch is handed out resp. the generator returns: every `tick` is disabled and the `emit` resp.
    `stop` step is enabled (so the only things that can come in between are arrivals at that same
    instant).  In other words the code has no blocking operation between noticing and yielding. -/
theorem C19_no_delay (c : Cfg) (hs : c.strict = true) (s : State) :
    (s.pc = .flush → (∀ d, step c s (.tick d) = none) ∧ (step c s .emit).isSome) ∧
    (s.pc = .closing → (∀ d, step c s (.tick d) = none) ∧ (step c s .stop).isSome) := by
  have blocked {a : Act} (ha : a ∈ batcherActs) (hen : (step c s a).isSome) (d : Nat) :
      step c s (.tick d) = none :=
    Option.not_isSome_iff_eq_none.mp fun ht => blocked_of_tick hs ht a ha hen
  exact ⟨fun hpc => ⟨blocked (.tail _ (.tail _ (.head _))) (emit_isSome.mpr hpc), emit_isSome.mpr hpc⟩,
    fun hpc => ⟨blocked (.tail _ (.tail _ (.tail _ (.head _)))) (stop_isSome.mpr hpc), stop_isSome.mpr hpc⟩⟩

/-- time passes only while the batcher is blocked: whenever a `tick` is possible none of the
    batcher's own steps is (so in particular a queued item or end marker is taken at once, and an
    expired wait is noticed at once) -/
theorem C19_tick_only_when_blocked (c : Cfg) (hstrict : c.strict = true) (s s' : State) (d : Nat)
    (ht : step c s (.tick d) = some s') : ∀ a ∈ batcherActs, step c s a = none :=
  fun a ha => Option.not_isSome_iff_eq_none.mp
    (blocked_of_tick hstrict (Option.isSome_of_eq_some ht) a ha)

/-- the timed wait is never overslept: while collecting, the clock is within `[t0, t0 + wait]`, so
    expiry is noticed at exactly `t0 + wait` -/
theorem C19_timeout_exact (c : Cfg) (hbs : 1 ≤ c.bs) (hstrict : c.strict = true) (as : List Act) (s s' : State)
    (h : Core.run (step c) init as = some s) (ht : step c s .timeout = some s') :
    s.clock = s.t0 + c.wait ∧ s'.clock = s.clock := by
  have hi := all_reachable c hbs ⟨as, h⟩
  have hs := step_sound c s s' .timeout ht
  cases hs with
  | timeout hpc hq hge =>
    obtain ⟨_, _, _, _, hle⟩ := hi.coll hpc
    have := hle hstrict
    exact ⟨by omega, rfl⟩

/-- **Waits no longer than told** (zero processing time).  Whenever the batcher holds items it has
    not yet handed out (`s.cur ≠ []`), at most `wait` has passed since it obtained the first of them;
    and once the clock stands at `t0 + wait` no more time can pass before they are handed out. -/
theorem C19_waits_no_longer_than_told (c : Cfg) (hbs : 1 ≤ c.bs) (hstrict : c.strict = true)
    (as : List Act) (s : State) (h : Core.run (step c) init as = some s) (hcur : s.cur ≠ []) :
    s.clock ≤ s.t0 + c.wait ∧ (s.clock = s.t0 + c.wait → ∀ d, step c s (.tick d) = none) := by
  have hi := all_reachable c hbs ⟨as, h⟩
  refine ⟨hi.told hstrict hcur, ?_⟩
  intro heq d
  cases hst : step c s (.tick d) with
  | none => rfl
  | some s' =>
    -- the state after the tick would still hold the batch, later than `t0 + wait`
    have hs := step_sound c s s' (.tick d) hst
    have htold := (inv_step c hbs s _ s' hi hs).told hstrict
    cases hs with
    | tick _ hd hg =>
      have : s.clock + d ≤ s.t0 + c.wait := htold hcur
      omega

/-- **Closed form** (zero processing time).  `greedy c l` groups a take-stamped sequence greedily: a
    batch opens with an item taken at `t0`, takes in every further entry taken up to `t0 + wait` until
    it is full or the end marker comes (then it goes out at that take's clock), and otherwise goes out
    at `t0 + wait`.  As long as no entry was taken at exactly `t0 + wait` of an open batch (`tie`; then
    the outcome depends on who was first, see the example below), at every moment of every run the
    batches handed out plus the one being collected are exactly the greedy grouping of what has been
    taken, and, whenever the batcher holds nothing, so are the clocks at which they were handed out. -/
theorem C19_closed_form (c : Cfg) (hbs : 1 ≤ c.bs) (hstrict : c.strict = true) (as : List Act) (s : State)
    (h : Core.run (step c) init as = some s) (htf : (greedy c s.takenAt).tie = false) :
    s.out ++ (if s.cur = [] then [] else [s.cur]) = (greedy c s.takenAt).closed ∧
    (s.cur = [] → s.outAt = (greedy c s.takenAt).closedAt c) :=
  closed_of_relAt (rel_reachable c hbs hstrict ⟨as, h⟩ htf)
    fun hpc => List.ne_nil_of_length_pos ((all_reachable c hbs ⟨as, h⟩).flush hpc).1

/-- the take stamps the closed form is about: `takenAt` is `taken` with the clock of each get; the
    stamps are nondecreasing and never in the future -/
theorem C19_take_stamps (c : Cfg) (as : List Act) (s : State) (h : Core.run (step c) init as = some s) :
    s.takenAt.map (·.1) = s.taken ∧ (∀ p ∈ s.takenAt, p.2 ≤ s.clock) ∧
    (s.takenAt.map (·.2)).Pairwise (· ≤ ·) :=
  takenAt_reachable c ⟨as, h⟩

/-- the batcher never spins: in every run the number of steps of the batcher and the consumer
    (`work as` = number of `take`/`timeout`/`emit`/`resume`/`stop` actions in `as`) is at most four per
    arrival (`arrivals as` = number of `arrive` actions): no polling loop, no repeated time-outs on an
    empty batch.  With `C19_no_stall` (something is always enabled unless the batcher legitimately
    waits) this is the model-level "nothing loops or blocks forever". -/
theorem C19_never_spins (c : Cfg) (as : List Act) (s : State)
    (h : Core.run (step c) init as = some s) : work as ≤ 4 * arrivals as := by
  have := run_pot c as init s h
  have : pot init = 0 := rfl
  omega

/-- the batcher and the consumer are deterministic: in any state at most one of
    `take`/`timeout`/`emit`/`resume`/`stop` is enabled, so the batches and their clocks are a function
    of the interleaving of arrivals and time alone (ties are the only source of different outcomes) -/
theorem C19_batcher_deterministic (c : Cfg) (s : State) (a b : Act)
    (ha : a ∈ [Act.take, .timeout, .emit, .resume, .stop]) (hb : b ∈ [Act.take, .timeout, .emit, .resume, .stop])
    (hea : (step c s a).isSome) (heb : (step c s b).isSome) : a = b := by
  obtain ⟨sa, hsa⟩ := Option.isSome_iff_exists.mp hea
  obtain ⟨sb, hsb⟩ := Option.isSome_iff_exists.mp heb
  exact (act_eq_next (step_sound c s sa a hsa) (isWork_of_mem a ha)).trans
    (act_eq_next (step_sound c s sb b hsb) (isWork_of_mem b hb)).symm

/-- arrival stamps are the clock values at the arrivals: nondecreasing and never in the future -/
theorem C19_stamps (c : Cfg) (hbs : 1 ≤ c.bs) (as : List Act) (s : State)
    (h : Core.run (step c) init as = some s) :
    (s.arrived.map (·.2)).Pairwise (· ≤ ·) ∧ ∀ p ∈ s.arrived, p.2 ≤ s.clock :=
  ⟨(all_reachable c hbs ⟨as, h⟩).sorted, (all_reachable c hbs ⟨as, h⟩).stamps⟩

/-! ## Non-vacuity -/

/-- `batch_size = 3`, `wait = 5`: items 1, 2 arrive at clocks 0 and 2, nothing else until 5: the short
    batch `[1, 2]` is handed out at clock 5 = t0 + wait, not via the end marker -/
example :
    let c : Cfg := { bs := 3, wait := 5, endm := none, strict := true }
    ∃ s s', Core.run (step c) init
        [.arrive (some 1), .take, .tick 2, .arrive (some 2), .take, .tick 3, .timeout] = some s ∧
      step c s .emit = some s' ∧ s.cur.length < c.bs ∧ s.fin = false ∧ s.clock = 5 ∧
      s'.out = [[some 1, some 2]] := by
  refine ⟨_, _, rfl, rfl, ?_⟩
  decide

/-- a tie: item 2 arrives at the very instant of the deadline (clock 5) and *before* the batcher
    looks — it is taken although the wait has expired; then the end marker cuts the batch short -/
example :
    let c : Cfg := { bs := 4, wait := 5, endm := none, strict := true }
    ∃ s s', Core.run (step c) init
        [.arrive (some 1), .take, .tick 5, .arrive (some 2), .take, .arrive none, .take] = some s ∧
      step c s .emit = some s' ∧ s.cur.length < c.bs ∧ s.fin = true ∧
      s'.out = [[some 1, some 2]] := by
  refine ⟨_, _, rfl, rfl, ?_⟩
  decide

/-- custom end marker `7`: `None` is an ordinary item, what arrives after the marker is left alone,
    the consumer holds the first (full) batch for 9 clock units, the run ends `done` -/
example :
    let c : Cfg := { bs := 2, wait := 0, endm := some 7, strict := true }
    ∃ s, Core.run (step c) init
        [.arrive none, .arrive (some 3), .arrive (some 4), .take, .take, .emit, .tick 9, .arrive (some 7),
         .arrive (some 8), .resume, .take, .take, .emit, .resume, .stop] = some s ∧
      s.pc = .done ∧ s.out = [[none, some 3], [some 4]] ∧ s.q = [some 8] ∧
      beforeEnd c (s.arrived.map (·.1)) = [none, some 3, some 4] := by
  refine ⟨_, rfl, ?_⟩
  decide

/-- non-`strict` time: the batcher is delayed past its deadline (clock 5 > t0 + wait = 2), still takes
    the item that is queued by then ("an item already available is taken even past the deadline"),
    and hands out the short batch once it finds the queue empty, at clock 6 ≥ t0 + wait -/
example :
    let c : Cfg := { bs := 3, wait := 2, endm := none, strict := false }
    ∃ s s', Core.run (step c) init
        [.arrive (some 1), .take, .tick 5, .arrive (some 2), .take, .tick 1, .timeout] = some s ∧
      step c s .emit = some s' ∧ s.cur.length < c.bs ∧ s.fin = false ∧ s.t0 = 0 ∧ s.clock = 6 ∧
      s'.out = [[some 1, some 2]] := by
  refine ⟨_, _, rfl, rfl, ?_⟩
  decide

/-- closed form, non-vacuity: the repo test's pattern (`batch_size 3`, `wait 4`): takes at clocks
    4,4,6,6,7,15,21 and the marker at 26 group into `[[1,2,3],[4,5],[6],[7]]` handed out at 6,10,19,25,
    without a tie — and that is what the run of the model produced -/
example :
    let c : Cfg := { bs := 3, wait := 4, endm := none, strict := true }
    ∃ s, Core.run (step c) init
        [.tick 4, .arrive (some 1), .arrive (some 2), .take, .take, .tick 2, .arrive (some 3), .take, .arrive (some 4),
         .emit, .resume, .take, .tick 1, .arrive (some 5), .take, .tick 3, .timeout, .emit, .resume, .tick 5,
         .arrive (some 6), .take, .tick 4, .timeout, .emit, .resume, .tick 2, .arrive (some 7), .take, .tick 4,
         .timeout, .emit, .resume, .tick 1, .arrive none, .take, .stop] = some s ∧
      (greedy c s.takenAt).tie = false ∧
      s.out = [[some 1, some 2, some 3], [some 4, some 5], [some 6], [some 7]] ∧ s.outAt = [6, 10, 19, 25] ∧
      (greedy c s.takenAt).closed = s.out ∧ (greedy c s.takenAt).closedAt c = s.outAt := by
  refine ⟨_, rfl, ?_⟩
  decide

/-- the no-tie hypothesis of `C19_closed_form` is needed: item 2 is put at the very instant the wait of
    `[1]` expires (clock 5) but *after* the batcher has noticed the expiry; it starts a new batch,
    whereas the greedy grouping puts it into the first one.  `tie` flags exactly this. -/
example :
    let c : Cfg := { bs := 3, wait := 5, endm := none, strict := true }
    ∃ s, Core.run (step c) init
        [.arrive (some 1), .take, .tick 5, .timeout, .arrive (some 2), .emit, .resume, .take] = some s ∧
      (greedy c s.takenAt).tie = true ∧ s.out = [[some 1]] ∧ s.cur = [some 2] ∧
      (greedy c s.takenAt).closed = [[some 1, some 2]] := by
  refine ⟨_, rfl, ?_⟩
  decide

/-- `C19_no_stall`'s third alternative is reachable: waiting in the timed get, time may pass up to
    the deadline -/
example :
    let c : Cfg := { bs := 2, wait := 4, endm := none, strict := true }
    ∃ s, Core.run (step c) init [.arrive (some 1), .take, .tick 1] = some s ∧
      s.pc = .coll ∧ s.q = [] ∧ (step c s (.tick 3)).isSome ∧ step c s (.tick 4) = none := by
  refine ⟨_, rfl, ?_⟩
  decide

end Eager
