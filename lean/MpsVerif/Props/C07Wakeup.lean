import MpsVerif.Proofs.WakeupInv
/-!
# C07 / C06 — a caller that gives up waiting for room never costs another caller its wake-up

`Model/Wakeup.lean`: the "wait for room" protocol of `Server._enqueue` / `AsyncServer._enqueue` with ONE
notification per freed slot and the condition variables as they are in the interpreter's library (a `notify()` may
reach a waiter that has already timed out).  A request that times out while waiting for room is an abandoned
request in the sense of C07; "every other pending or later request is still answered" requires that a caller
waiting for room (no backpressure) is never left waiting in front of a server that has room.

* `C07_wakeup_under_way`, `C07_no_caller_left_waiting_for_room`, `C07_bookkeeping_terminates`: the repaired code
  (`passOn = true`, /repo 8b5ca7e), every reachable state, every schedule, every number of callers.
* `C07_pinned_loses_wakeup_threading`, `C07_pinned_loses_wakeup_asyncio`: the pinned code (`passOn = false`)
  reaches a state at rest in which a caller waits although the server is empty (finding F44) — kernel-checked
  witnesses, one per flavour of condition variable.
-/
namespace Wakeup
open Core

/-- reachable states of the repaired protocol satisfy the invariant -/
theorem reachable_inv (c : Cfg) (hp : c.passOn = true) (s : State) (hr : Reach (step c) init s) : Inv c s :=
  invariant_reach (fun _ _ _ hi hs => inv_step hp hi hs) (inv_init c) hr

/-- **No wake-up is lost.**  Whenever the server has room while a caller is parked waiting for room, a wake-up is still
    under way: a result whose notification is about to be queued, a queued notification, a caller that holds a
    notification, or a leaving caller that is about to pass one on. -/
theorem C07_wakeup_under_way (c : Cfg) (hp : c.passOn = true) (s : State) (hr : Reach (step c) init s)
    (hroom : s.n < c.cap) (hwait : 0 < s.w) : 0 < s.g + s.t + s.nt + s.nx + s.p := by
  have := (reachable_inv c hp s hr).2 hwait
  omega

/-- the backlog never exceeds the capacity (C06, in this model too) -/
theorem C06_wakeup_backlog_le_cap (c : Cfg) (hp : c.passOn = true) (s : State) (hr : Reach (step c) init s) :
    s.n ≤ c.cap :=
  (reachable_inv c hp s hr).1

/-- **Nobody is left waiting in front of a server with room.**  When the server's own bookkeeping has come to rest
    (no internal action is enabled), a caller still parked in `wait` faces a full server. -/
theorem C07_no_caller_left_waiting_for_room (c : Cfg) (hp : c.passOn = true) (s : State)
    (hr : Reach (step c) init s) (hq : ∀ a, istep c s a = none) (hw : 0 < s.w) : s.n = c.cap := by
  obtain ⟨hg, ht, hnt, hnx, hpz, hx⟩ := (quiescent_iff c s).2 hq
  obtain ⟨hn, h⟩ := reachable_inv c hp s hr
  have := h (by omega)
  omega

/-- **The bookkeeping does come to rest**: without outside events (new callers, results, timers) at most `mu s`
    internal actions can follow one another from `s`, whatever the schedule. -/
theorem C07_bookkeeping_terminates (c : Cfg) (s s' : State) (as : List Act)
    (hr : run (istep c) s as = some s') : as.length ≤ mu s := by
  have := length_le_measure mu (fun _ _ _ => internal_decreases) as s s' hr
  omega

/-- non-vacuity: a reachable state of the repaired protocol with room, a parked caller and a wake-up under way -/
example : ∃ s, Reach (step { cap := 1 }) init s ∧ s.n < 1 ∧ 0 < s.w ∧ 0 < s.nt :=
  ⟨{ n := 0, w := 1, nt := 1 }, ⟨[.take, .park, .park, .pop, .post, .notify .w], by decide⟩, by decide, by decide, by decide⟩

/-- the race itself is reachable in the repaired protocol, and it ends with the other caller woken:
    `notify` hits the expired waiter, which passes the notification on -/
example : run (step { cap := 1 }) init
    [.take, .park, .park, .pop, .post, .expire, .notify .x, .leaveWait true, .passOn .w, .wokenTake]
    = some { n := 1 } := by decide

/-- **Pinned code, threading flavour (F44).**  Capacity 1; request 0 in service; callers A and B wait for room; the
    result emerges; A's timed wait expires; `notify()` picks A (still in the list); A leaves with
    `ServerBacklogFull`.  At rest: the server is empty and B is still parked — until its own timeout. -/
theorem C07_pinned_loses_wakeup_threading :
    ∃ as s, run (step { cap := 1, passOn := false }) init as = some s ∧
      Quiescent s ∧ 0 < s.w ∧ s.n < 1 :=
  ⟨[.take, .park, .park, .pop, .post, .expire, .notify .x, .leaveWait true, .giveUp], { n := 0, w := 1 },
    by decide, by decide, by decide, by decide⟩

/-- **Pinned code, asyncio flavour (F44, Python < 3.12.2).**  The same with `notify()` resolving A's waiter future
    and A's time-out cancelling the task before it runs. -/
theorem C07_pinned_loses_wakeup_asyncio :
    ∃ as s, run (step { cap := 1, passOn := false }) init as = some s ∧
      Quiescent s ∧ 0 < s.w ∧ s.n < 1 :=
  ⟨[.take, .park, .park, .pop, .post, .notify .w, .raceFire, .leaveWait true, .giveUp], { n := 0, w := 1 },
    by decide, by decide, by decide, by decide⟩

end Wakeup
