import MpsVerif.Proofs.BufferLive
/-!
# C05 — `buffer(n)` (and `AsyncBuffer`) ends cleanly on early stop or failure

Stop position = the `close` action (enabled after any output); failure = the source raising after
`n` elements (`srcEnd = exc`; any `Exception`, or `StopRequested`); all interleavings of worker
and consumer = all action lists; `maxsize ≥ 1` arbitrary (including 1).
-/
namespace Buffer

/-- every execution is finite: at most `6·n + 13` steps -/
theorem C05_buffer_terminates (c : Cfg) (as : List Act) (s : State)
    (hr : Core.run (step c) init as = some s) : as.length ≤ 6 * c.n + 13 := by
  have := Core.length_le_measure (mu c)
    (fun s a s' hs => mu_decreases (step_sound c s s' a hs)) as init s hr
  have h0 : mu c init = 6 * c.n + 13 := rfl
  omega

/-- nothing blocks forever: some thread can move in every reachable non-final state -/
theorem C05_buffer_progress (c : Cfg) (hms : 1 ≤ c.maxsize) (s : State) (hr : Reachable c s)
    (hnf : ¬ Final s) : ∃ a, (step c s a).isSome = true :=
  let ⟨a, _, hs⟩ := step_of_inv hms (all_reachable c hr) hnf
  ⟨a, hs.enabled⟩

/-- when the iterator is closed the worker thread has exited -/
theorem C05_buffer_clean (c : Cfg) (s : State) (hr : Reachable c s) (hf : Final s) : s.wpc = .done :=
  (all_reachable c hr).clean hf

/-- a failing source is reported exactly after every element it produced was delivered, in order -/
theorem C05_buffer_source_failure (c : Cfg) (s : State) (hr : Reachable c s) (hraised : s.raised = true) :
    s.out = List.range c.n ∧ c.srcEnd = .exc := by
  have h := all_reachable c hr
  obtain ⟨hn, hexc⟩ := h.res.raised hraised
  exact ⟨hn ▸ h.flow.out_eq_range, hexc⟩

/-- the exception is raised at most once and nothing is delivered after it -/
theorem C05_buffer_raise_once (c : Cfg) (s : State) (hr : Reachable c s) (hraised : s.raised = true) :
    s.cpc.iter = false := by
  cases ha : s.cpc.iter with
  | false => rfl
  | true =>
    have := ((all_reachable c hr).cons.reading (CPc.reads_of_iter ha)).1
    exact nomatch hraised.symm.trans this

/-- list meaning of `buffer` (used by C03): outputs are the source's elements in order, and a run
    that ended without early close or failure delivered all of them -/
theorem C03_buffer_identity (c : Cfg) (s : State) (hr : Reachable c s) :
    s.out = List.range s.out.length ∧
    (s.cpc = .closed → s.raised = false → s.closeReq = false → s.out = List.range c.n) := by
  have h := all_reachable c hr
  refine ⟨h.flow.out_eq_range, fun hc hnr hncl => ?_⟩
  rcases h.cons.reason (hc ▸ rfl) with h1 | h1 | h1
  · exact nomatch h1.symm.trans hnr
  · exact (h.res.ended h1).1 ▸ h.flow.out_eq_range
  · exact nomatch h1.symm.trans hncl

/-- non-vacuity: `buffer(1)`, early close after the first output while the worker holds the next
    element and the queue is full — the run reaches `Final` -/
example :
    let c : Cfg := { n := 9, srcEnd := .clean, maxsize := 1 }
    ∃ s, Reachable c s ∧ Final s ∧ s.closeReq = true ∧ s.out = [0] := by
  refine ⟨_, ⟨[.pull, .wcheck, .put, .get, .pull, .wcheck, .put, .pull, .wcheck, .yld, .close, .setFlag,
              .drainPop, .put, .pull, .stopSeen, .drainPop, .putFin, .joined], rfl⟩, ?_⟩
  decide

end Buffer
