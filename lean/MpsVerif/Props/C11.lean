import MpsVerif.Proofs.LifecycleStart
import MpsVerif.Proofs.LifecycleWf
import MpsVerif.Proofs.LifecycleCompile
/-!
# C11 — Server starts all-or-nothing and stops completely

Servlet trees = `Tree` (worker servlet with k thread/process workers | sequential | ensemble | switch, binary);
failure plan = any `bad : servlet → worker → Bool`; prior workload = any interleaving of `inject` actions with
node steps before `__exit__` begins (requests may be anywhere: failed, timed-out and abandoned-stream requests
are data messages like any other — nobody waits for them); schedules = all action lists; pipe capacity `K`.
-/
namespace Lifecycle

/-- `__enter__` either starts every thread of the tree (workers, ensemble/switch helpers, onboarding and gather
    threads) or reports the first worker, in launch order, whose `__init__` fails — and then no thread that was
    started is still running.  For every tree and every failure plan. -/
theorem C11_all_or_nothing (bad : Nat → Nat → Bool) (t : Tree) :
    let r := startServer bad t
    r.err = firstBad bad (workers t 0) ∧
    (∀ e, r.err = some e → e ∈ workers t 0 ∧ bad e.1 e.2 = true ∧ alive r.evs = []) ∧
    (r.err = none → alive r.evs = threads t 0 ++ serverThreads t) := by
  have h := startServer_spec bad t
  refine ⟨h.err, ?_, ?_⟩
  · intro e he
    have hf : firstBad bad (workers t 0) = some e := by rw [← h.err]; exact he
    refine ⟨List.mem_of_find?_eq_some hf, ?_, alive_nil_of_all_gone _ (h.ko (by simp [he]))⟩
    have := List.find?_some hf
    simpa [isBad] using this
  · intro he
    obtain ⟨hl, hg⟩ := h.ok he
    rw [alive_of_none_gone _ hg, hl]

/-
Full statement of "stop completes" (NOT provable: false for pipe-backed queues, see `C11_F19_witness`):

  theorem C11_stop_complete (K : Nat) (hK : 1 ≤ K) (t : Tree) (hpos : t.pos) (s : State)
      (hr : Reachable (compileServer K t) s) (hnf : ¬ Final s) :
      ∃ a, (step (compileServer K t) s a).isSome = true

together with `C11_stop_terminates`, `C11_stop_final`, `C11_reenter` below, which DO hold at full strength: for
every servlet tree (every servlet with ≥ 1 worker), every K and every residual workload — the compiled network is
well-formed for every such tree (`compile_WF`), so the `_tree` versions carry no well-formedness hypothesis.
What is proved instead of the progress half: `C11_stop_complete_partial(_tree)` — progress under the decidable
side condition `Net.safe`: every pipe-backed queue has ONE node writing to it, and the main thread puts its own
sentinel on it only after having joined that writer.  This covers every tree of thread servlets (no pipe at all:
`C11_stop_complete_threads_tree`, unconditional — the class the deterministic-scheduler tie runs) and, with
pipes of any capacity K ≥ 1 and ANY residual workload, e.g. sequences / ensembles of one-worker process servlets
under the repaired stop orders (F12, F24).  It excludes exactly the known hangs: a servlet with ≥ 2 workers writing
to a pipe (F19), switch members sharing a pipe-backed output queue, and the pinned stop orders (`Net.safe` is
`false` there, see the examples).  Missing: (a) the full statement is false; (b) a syntactic characterisation of
the trees with `(compileServer K t).safe = true` as a theorem (`safe` is a hypothesis, evaluated by `decide` for
the shapes below; it is sufficient, not necessary: an ensemble's `_enqueue` and `_dequeue` both write to its
output queue, so `S(E(..), P1)` is rejected although the F24 order makes it harmless).
-/

/-- once `__exit__` has begun, at most `mu` further steps can happen, whatever the schedule, the tree, the pipe
    capacity and the residual workload -/
theorem C11_stop_terminates (net : Net) (hwf : net.wf = true) (s : State) (hstop : s.stopping = true)
    (as : List Act) (s' : State) (hrun : Core.run (step net) s as = some s') : as.length ≤ mu net s :=
  stop_terminates net (wf_sound net hwf) s hstop as s' hrun

/-- when `__exit__` returns, every worker, helper, onboarding and gather thread has exited and the ledger is
    empty — for every well-formed network, pipe capacity and residual workload -/
theorem C11_stop_final (net : Net) (hwf : net.wf = true) (s : State) (hr : Reachable net s) (hf : Final s) :
    (∀ n, n < net.nodes.length → s.nodes n = .s []) ∧ s.ledger = 0 :=
  stop_final net (wf_sound net hwf) s hr hf

/-- no hang: in every reachable state in which `__exit__` has not returned some thread can move — for every
    well-formed network satisfying `Net.safe`, every pipe capacity, residual workload and schedule -/
theorem C11_stop_complete_partial (net : Net) (hwf : net.wf = true) (hsafe : net.safe = true) (s : State)
    (hr : Reachable net s) (hnf : ¬ Final s) : ∃ a, (step net s a).isSome = true :=
  progress_safe net (wf_sound net hwf) (safe_sound net hsafe) s hr hnf

/-- thread queues only (any tree shape, any number of workers per servlet) -/
theorem C11_stop_complete_threads (net : Net) (hwf : net.wf = true) (hub : Unbounded net) (s : State)
    (hr : Reachable net s) (hnf : ¬ Final s) : ∃ a, (step net s a).isSome = true :=
  progress_unbounded net (wf_sound net hwf) hub s hr hnf

/-- after `__exit__` the same server object can be entered again: all `assert not self._started` hold, the new
    state is the initial state (fresh queues and threads) and the ledger is empty -/
theorem C11_reenter (net : Net) (hwf : net.wf = true) (s : State) (hr : Reachable net s) (hf : Final s) :
    ∃ s0, reenter net s = some s0 ∧ s0.ledger = 0 ∧ s0.pc = net.script ∧ s0.stopping = false ∧
      (∀ n, s0.nodes n = .d []) ∧ (∀ c, s0.chans c = []) :=
  reenter_final net (wf_sound net hwf) s hr hf

/-! ### the same for servlet trees: no well-formedness hypothesis -/

/-- every servlet tree: once `__exit__` has begun at most `mu` further steps can happen -/
theorem C11_stop_terminates_tree (K : Nat) (t : Tree) (hpos : t.pos) (s : State) (hstop : s.stopping = true)
    (as : List Act) (s' : State) (hrun : Core.run (step (compileServer K t)) s as = some s') :
    as.length ≤ mu (compileServer K t) s :=
  stop_terminates _ (compile_WF K t hpos) s hstop as s' hrun

/-- every servlet tree: when `__exit__` returns every thread of the server has exited and the ledger is empty -/
theorem C11_stop_final_tree (K : Nat) (t : Tree) (hpos : t.pos) (s : State)
    (hr : Reachable (compileServer K t) s) (hf : Final s) :
    (∀ n, n < (compileServer K t).nodes.length → s.nodes n = .s []) ∧ s.ledger = 0 :=
  stop_final _ (compile_WF K t hpos) s hr hf

/-- every servlet tree: after `__exit__` the same server object can be entered again (fresh initial state, empty ledger) -/
theorem C11_reenter_tree (K : Nat) (t : Tree) (hpos : t.pos) (s : State) (hr : Reachable (compileServer K t) s)
    (hf : Final s) :
    ∃ s0, reenter (compileServer K t) s = some s0 ∧ s0.ledger = 0 ∧ s0.pc = (compileServer K t).script ∧
      s0.stopping = false ∧ (∀ n, s0.nodes n = .d []) ∧ (∀ c, s0.chans c = []) :=
  reenter_final _ (compile_WF K t hpos) s hr hf

/-- every tree of thread servlets (any shape, any number of workers): `__exit__` never hangs, whatever the
    residual workload and the schedule -/
theorem C11_stop_complete_threads_tree (K : Nat) (t : Tree) (hpos : t.pos) (hth : t.threadOnly) (s : State)
    (hr : Reachable (compileServer K t) s) (hnf : ¬ Final s) :
    ∃ a, (step (compileServer K t) s a).isSome = true :=
  progress_unbounded _ (compile_WF K t hpos) (compile_unbounded K t hth) s hr hnf

/-- every servlet tree whose compiled network is `safe` (pipes included, any K ≥ 1, any residual workload) -/
theorem C11_stop_complete_partial_tree (K : Nat) (t : Tree) (hpos : t.pos)
    (hsafe : (compileServer K t).safe = true) (s : State) (hr : Reachable (compileServer K t) s) (hnf : ¬ Final s) :
    ∃ a, (step (compileServer K t) s a).isSome = true :=
  progress_safe _ (compile_WF K t hpos) (safe_sound _ hsafe) s hr hnf

/-- F19 in the model (it is a property of the stop protocol, repaired code included): a first-stage
    `ProcessServlet` with three workers, pipes holding one message.  Worker 0 takes the sentinel and forwards
    it while workers 1 and 2 still hold a result; the second stage leaves on the sentinel; worker 1's result
    fills the pipe nobody reads any more; worker 2 blocks on it forever and `stop` never joins it. -/
theorem C11_F19_witness :
    ∃ s, Reachable (compileServer 1 (.seq (.simple 3 true) (.simple 1 true))) s ∧ ¬ Final s ∧
      ∀ a, step (compileServer 1 (.seq (.simple 3 true) (.simple 1 true))) s a = none := by
  apply deadlocks_sound _
    [.inject, .inject, .inject,
     .get 5 3 0, .put 5, .get 0 0 0,
     .get 5 3 0, .put 5, .get 1 0 0,
     .get 5 3 0, .put 5, .get 2 0 0,
     .main, .get 5 3 0, .put 5, .main,
     .put 0, .get 0 0 0, .put 0, .put 0,
     .get 3 2 0, .put 3, .get 3 2 0, .put 3, .put 3,
     .get 4 1 0, .get 4 1 0,
     .put 1, .get 1 0 0, .put 1, .put 1,
     .main, .main, .main]
  decide

/-- non-vacuity of the hypotheses: compiled trees are well-formed (sequential / ensemble / switch, several
    workers, thread and process servlets), and thread-servlet trees are `Unbounded` -/
example : (compileServer 3 (.seq (.simple 2 false) (.ens (.simple 1 false) (.sw (.simple 2 false) (.simple 1 false))))).wf = true := by
  decide
example : (compileServer 1 (.ens (.simple 3 true) (.seq (.simple 2 true) (.simple 1 false)))).wf = true := by decide
/-- `Net.safe`: one-worker process servlets in sequence / ensemble are safe for every residual workload; the
    F19 shape, a switch over process members, thread workers feeding a pipe, and the pinned exit order are not -/
example : (compileServer 1 (.seq (.simple 1 true) (.ens (.simple 1 true) (.seq (.simple 1 true) (.simple 1 false))))).safe = true := by
  decide
example : (compileServer 1 (.seq (.simple 3 true) (.simple 1 true))).safe = false := by decide
example : (compileServer 1 (.sw (.simple 1 true) (.simple 1 true))).safe = false := by decide
example : (compileServer 1 (.seq (.simple 2 false) (.simple 1 true))).safe = false := by decide
example : (compileServer 1 (.simple 1 true) (pinned := true)).safe = false := by decide
example : (compileServer 3 (.seq (.simple 2 false) (.ens (.simple 1 false) (.simple 2 false)))).safe = true := by decide

example : Unbounded (compileServer 3 (.seq (.simple 2 false) (.ens (.simple 1 false) (.simple 2 false)))) :=
  unbounded_of_all _ (by decide)

/-- non-vacuity: a two-worker thread servlet followed by a one-worker servlet, two requests accepted, the stop
    overtaken by nothing: the run reaches `Final` (all seven `__exit__` instructions executed) -/
example :
    let net := compileServer 1 (.seq (.simple 2 false) (.simple 1 false))
    (match Core.run (step net) (init net)
        [.inject, .inject, .get 0 0 0, .main, .get 1 0 0, .put 0, .get 0 0 0, .put 0, .put 0, .put 1,
         .get 1 0 0, .put 1, .put 1, .main, .main, .main,
         .get 2 2 0, .put 2, .get 2 2 0, .put 2, .put 2, .main, .get 3 1 0, .get 3 1 0, .main, .main] with
     | some s => decide (Final s) && s.ledger == 0 && s.stopping
     | none => false) = true := by
  decide

/-- non-vacuity of `C11_all_or_nothing`: worker 1 of the second servlet fails; three workers had been started -/
example :
    let r := startServer (fun sv w => sv == 2 && w == 1) (.seq (.simple 2 false) (.simple 2 false))
    r.err = some (2, 1) ∧ (launched r.evs).length = 4 ∧ alive r.evs = [] := by
  decide

end Lifecycle
