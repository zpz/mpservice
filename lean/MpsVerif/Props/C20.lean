import MpsVerif.Proofs.LogPipe
/-!
# C20 — child-process log records all reach the parent, once and in order

Quantifiers: every number of records `n`, every pipe capacity `K ≥ 1` (in records — "far beyond the
pipe buffer" is `n > K`; a record larger than the OS buffer is `K = 1`), every level predicate
`pass`, every interleaving of the child's main thread, its feeder thread, the parent's logger
thread, collector thread, parent-side feeder and GC finalizer (= all action lists); in particular
every relative timing of result delivery and log flushing.  The way the target ends (return,
raise, `sys.exit`) only changes the two result messages, which the model counts but does not
look into (C12 does); the last record is emitted immediately before the target's end
(`targetEnd` is enabled only when all `n` records are emitted, and nothing separates them).
-/
namespace LogPipe

/-- Conservation at every moment: the records emitted so far are exactly — once each, in
    emission order — those already read by the logger thread, then those in the pipe, then those
    still in the child's buffer. -/
theorem C20_conservation (c : Cfg) (s : State) (hr : Reachable c s) :
    s.consumed ++ recsOf s.pipe ++ s.cbuf = List.range s.emitted ∧
    s.handled = s.consumed.filter c.pass :=
  ⟨(inv_reachable c hr).order, (inv_reachable c hr).hand⟩

/-- At every moment what the parent has handled is a prefix of what it must handle: never a
    duplicate, never out of order, never a record below the parent's levels. -/
theorem C20_prefix (c : Cfg) (s : State) (hr : Reachable c s) : s.handled <+: expected c := by
  have hi := inv_reachable c hr
  rw [hi.hand]
  apply List.IsPrefix.filter
  have h1 : s.consumed <+: List.range s.emitted := by
    rw [← hi.order, List.append_assoc]; exact List.prefix_append _ _
  have h2 : List.range s.emitted <+: List.range c.n := by
    have : c.n = s.emitted + (c.n - s.emitted) := by have := hi.le; omega
    rw [this, List.range_add]; exact List.prefix_append _ _
  exact h1.trans h2

/-- Once the logger thread has stopped — hence (`Inv.resolved`) once the future is resolved, i.e. once
    `join`/`result` can return — the parent has handled **exactly** the passing records
    `0..n-1`, each once, in emission order; including the last ones emitted before the target
    ended. -/
theorem C20_all_once_in_order (c : Cfg) (s : State) (hr : Reachable c s)
    (h : s.lstopped = true ∨ s.fut = true) : s.handled = expected c := by
  have hi := inv_reachable c hr
  exact handled_of_stopped hi (h.elim id fun h => (hi.resolved h).1)

/-- … and they had all been handled already at the moment the future was resolved (when
    `join` / `result` return nothing is still to come) -/
theorem C20_all_handled_at_join (c : Cfg) (s : State) (hr : Reachable c s) (h : s.fut = true) :
    s.handledAtResolve = (expected c).length := by
  have hi := inv_reachable c hr
  rw [(hi.resolved h).2, C20_all_once_in_order c s hr (Or.inr h)]

/-- However much the child logs (`n` arbitrary, pipe capacity `K ≥ 1` arbitrary): in every
    reachable state that is not final some thread can move (the child is never stuck behind a
    full pipe, the collector never waits for a logger thread that cannot end); in a final state
    the child has exited and the future is resolved (`join` / `result` return). -/
theorem C20_child_exits (c : Cfg) (hK : 1 ≤ c.K) (s : State) (hr : Reachable c s) :
    (¬ Final s → ∃ a, (step c s a).isSome = true) ∧
    (Final s → s.cpc = .exited ∧ s.fut = true ∧ s.handled = expected c) := by
  have hi := inv_reachable c hr
  refine ⟨progress_of_inv c hK s hi, fun hf => ?_⟩
  have hfut : s.fut = true := by
    rw [hi.fut, hf.2.1]
    rfl
  exact ⟨hf.1, hfut, C20_all_once_in_order c s hr (Or.inr hfut)⟩

/-- … and every execution is finite: at most `3·n + 18` actions, whatever the schedule.
    With `C20_child_exits`: every maximal execution ends in `Final`. -/
theorem C20_child_exits_bound (c : Cfg) (as : List Act) (s : State)
    (hr : Core.run (step c) init as = some s) : as.length ≤ 3 * c.n + 18 := by
  have := Core.length_le_measure (mu c) (fun s a s' hs => mu_decreases c s s' a hs) as init s hr
  have h0 : mu c init = 3 * c.n + 18 := rfl
  omega

/-! ## no bound on how far the child may get ahead

The child-side queue buffer `cbuf` is unbounded in the model, as `multiprocessing.Queue()` without a
`maxsize` is in the code: emitting never blocks and never drops.  (`QueueHandler` uses `put_nowait`:
a bounded log queue would drop every record beyond its capacity — a correspondence break, and the
`lost` monitor's business; the burst cases of `scen_log` put the child 13 000 – 150 000 records ahead.) -/

/-- emitting is enabled whatever is outstanding, and appends exactly the record -/
theorem C20_emit_never_blocks (c : Cfg) (s : State) (h1 : s.cpc = .emit) (h2 : s.emitted < c.n) :
    step c s .emit = some { s with cbuf := s.cbuf ++ [s.emitted], emitted := s.emitted + 1 } :=
  if_pos ⟨h1, h2⟩

/-- the child can get any number `k ≤ n` of records ahead of the parent: after `k` emissions and
    nothing else all `k` records are outstanding in `cbuf`, in order -/
theorem C20_ahead_unbounded (c : Cfg) (k : Nat) (hk : k ≤ c.n) :
    Core.run (step c) init (List.replicate k .emit) = some { init with cbuf := List.range k, emitted := k } := by
  rw [run_emits c k init rfl ((Nat.zero_add k).symm ▸ hk), List.range_eq_range']
  show some { init with cbuf := [] ++ List.range' 0 k, emitted := 0 + k } = _
  rw [List.nil_append, Nat.zero_add]

/-! ## non-vacuity -/

/-- three records through a pipe that holds one, the middle one below the parent's level, the
    result delivered before any record is flushed: final, exactly `[0, 2]` handled -/
example :
    let c : Cfg := { n := 3, K := 1, pass := fun i => i != 1 }
    ∃ s, Reachable c s ∧ Final s ∧ s.handled = [0, 2] ∧ s.handledAtResolve = 2 := by
  refine ⟨_, ⟨[.emit, .emit, .emit, .targetEnd, .send1, .send2, .kRecv, .kRecv, .closeQ, .feed, .lget,
              .feed, .lget, .feed, .feedEnd, .exit, .kSentinel, .kPutEnd, .lget, .pfeed, .lend, .kJoinLog,
              .kResolve, .fin, .pfeed], rfl⟩, ?_⟩
  decide

/-- a reachable state in which the child's feeder is blocked on the full pipe while the child
    waits to exit and the result has long been received (the situation in which the pinned code
    loses records and hangs): here the logger thread is still running, so it is not a deadlock -/
example :
    let c : Cfg := { n := 3, K := 1, pass := fun _ => true }
    ∃ s, Reachable c s ∧ s.cpc = .joinF ∧ s.kpc = .waitExit ∧ s.pipe.length = c.K ∧ s.cbuf = [1, 2] ∧
      s.lstopped = false ∧ (step c s .feed) = none ∧ (step c s .lget).isSome = true := by
  refine ⟨_, ⟨[.emit, .emit, .emit, .targetEnd, .send1, .send2, .kRecv, .kRecv, .closeQ, .feed], rfl⟩, ?_⟩
  decide

end LogPipe
