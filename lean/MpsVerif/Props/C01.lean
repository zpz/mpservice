import MpsVerif.Proofs.FifoFacts
/-!
# C01 — parallel map is order-preserving and exactly-once

Model: `Model/Fifo.lean`.  Elements are identified by their index; `out` is the list of indices
whose result was handed to the consumer.  The value delivered for index `i` is
`post (x_i, result_i)`; `result_i` is the future's content, which the model tracks by index
(`finished`), so "the i-th output is the function's result for the i-th input" is
"`out = [0, 1, …, k-1]` and every delivered index is finished".  All theorems hold for every
reachable state, i.e. for **every** action list: every completion order (`finish j` for any
running `j`), every interleaving of feeder, pool and consumer, every `cap`, `conc`, flags.
-/
namespace Fifo

/-- outputs are the indices `0, 1, 2, …` in order: no gap, no duplicate, no reordering -/
theorem C01_in_order (c : Cfg) (s : State) (hr : Reachable c s) :
    s.out = List.range s.out.length := (all_reachable c hr).res.out_eq

/-- every delivered element carries a result that is ready (its own future), and an exception
    result is delivered as a value only under `return_exceptions` -/
theorem C01_own_result (c : Cfg) (s : State) (hr : Reachable c s) :
    ∀ i ∈ s.out, i ∈ s.finished ∧ (c.isErr i = false ∨ c.returnExc = true) :=
  (all_reachable c hr).res.ready

/-- exactly-once: the worker function is never invoked twice on the same element; it was invoked
    exactly once on every delivered element that passed the preprocessor, and never on an element
    the preprocessor rejected -/
theorem C01_exactly_once (c : Cfg) (s : State) (hr : Reachable c s) :
    s.calls.Nodup ∧
    (∀ i ∈ s.out, c.preFail i = false → s.calls.count i = 1) ∧
    (∀ i, c.preFail i = true → i ∉ s.calls) :=
  (all_reachable c hr).exactly_once

/-- completeness: when the iteration is over and the consumer neither closed early nor received
    an exception, it has received every element -/
theorem C01_complete (c : Cfg) (s : State) (hr : Reachable c s)
    (hclosed : s.cpc = .closed) (hnr : s.raised = none) (hnc : s.closeReq = false) :
    s.out = List.range c.n :=
  (all_reachable c hr).complete hclosed hnr hnc

/-- non-vacuity: out-of-order completion (element 1 finishes before element 0) still delivers
    `[0, 1]` and the run ends `closed` with `calls = [1, 0]` -/
example :
    let c : Cfg := { n := 2, srcEnd := .clean, cap := 1, conc := 2, preFail := fun _ => false,
                     resErr := fun _ => false, returnExc := false }
    ∃ s, Reachable c s ∧ s.cpc = .closed ∧ s.out = [0, 1] ∧ s.raised = none := by
  refine ⟨_, ⟨[.pull, .fcheck, .submit, .put, .pull, .fcheck, .submit, .put, .start 0, .start 1,
              .finish 1, .get, .finish 0, .yld, .next, .get, .yld, .next, .srcEnd, .putEnd, .get,
              .drainEmpty, .join], rfl⟩, ?_⟩
  decide

end Fifo
