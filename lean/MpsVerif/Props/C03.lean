import MpsVerif.Proofs.PipelineInc
import MpsVerif.Proofs.PipelineLaws
/-!
# C03 — stream pipelines equal their sequential meaning

Model: `Model/Pipeline.lean` (`sem`/`semAll`: terminated-stream list meaning; `feed`/`flush`: the
generator bodies; `next`/`takeK`: the generator protocol over a source with a pull counter, eager
`buffer`/`parmap` stages scheduled by an arbitrary oracle).  Everything below is for **every**
program `ops : List Op` (operators carry arbitrary functions `Val → Res`, arbitrary sizes and
selectors), every finite input `vals` with or without a terminal source error `err`, every oracle
`orc`, and every consumption depth `k`.
-/
namespace Pipeline

/-- Consuming `k` items from the pipeline built from `ops` over the source `(vals, err)` — by the
    pull machine, i.e. the generator code — yields exactly the first `k` values of the sequential
    meaning `semAll ops`, and, when `k` exceeds their number, its ending (clean end or the error);
    for all sufficiently large recursion budgets (`fuel` is not part of the modelled code). -/
theorem C03_pull_eq_sem (ops : List Op) (vals : List Val) (err : Option Err) (orc : List Bool) (k : Nat) :
    ∃ F, ∀ fuel, F ≤ fuel →
      let r := takeK fuel k (build ops) (World.init vals err orc)
      (r.1, r.2.1) = expectK k (semAll ops ⟨vals, err⟩) := by
  obtain ⟨F, hF⟩ := takeK_total _ (build ops) (World.init vals err orc) (Nat.lt_succ_self _)
  exact ⟨F, fun fuel hle => denote_build ops vals err orc ▸ takeK_spec (hF fuel hle k)⟩

/-- … and no budget gives a different answer: whenever the run does not stop on `Resp.fuel`, it
    has produced the sequential meaning. -/
theorem C03_pull_fuel_independent (ops : List Op) (vals : List Val) (err : Option Err) (orc : List Bool)
    (k fuel : Nat) :
    let r := takeK fuel k (build ops) (World.init vals err orc)
    r.2.1 ≠ some .fuel → (r.1, r.2.1) = expectK k (semAll ops ⟨vals, err⟩) := by
  exact fun h => denote_build ops vals err orc ▸ takeK_spec h

/-- Iterated to exhaustion (`collect()`, `drain()`, a full `for` loop): all values of the
    sequential meaning, then its ending. -/
theorem C03_exhaust_eq_sem (ops : List Op) (vals : List Val) (err : Option Err) (orc : List Bool) :
    ∃ F, ∀ fuel, F ≤ fuel → ∀ k, (semAll ops ⟨vals, err⟩).vals.length < k →
      let r := takeK fuel k (build ops) (World.init vals err orc)
      r.1 = (semAll ops ⟨vals, err⟩).vals ∧
      r.2.1 = some (match (semAll ops ⟨vals, err⟩).err with
        | Option.none => Resp.done
        | some e => Resp.err e) := by
  obtain ⟨F, hF⟩ := takeK_total _ (build ops) (World.init vals err orc) (Nat.lt_succ_self _)
  refine ⟨F, fun fuel hle k hk => ?_⟩
  have := takeK_spec (hF fuel hle k)
  rw [denote_build, expectK, if_neg (Nat.not_le_of_lt hk), List.take_of_length_le (Nat.le_of_lt hk)] at this
  exact Prod.mk.inj this

/-- Building a pipeline pulls nothing: the state built for any program over any source has pull
    counter 0, the source untouched, and every stage in its initial state (nothing pending,
    nothing fetched ahead, nothing received). -/
theorem C03_lazy (ops : List Op) (vals : List Val) (err : Option Err) (orc : List Bool) :
    (World.init vals err orc).src.pulled = 0 ∧ (World.init vals err orc).src.rest = vals ∧
    ∀ g ∈ build ops, g.pend = [] ∧ g.inq = [] ∧ g.recv = 0 := by
  refine ⟨rfl, rfl, ?_⟩
  intro g hg
  simp only [build, List.mem_reverse, List.mem_map] at hg
  obtain ⟨op, _, rfl⟩ := hg
  exact ⟨rfl, rfl, rfl⟩

/-- Incremental consumption.  For a chain of one-to-one operators (`map`, `peek`, `accumulate`,
    `head`, `buffer`, `parmap`), after `k` requests — whatever the oracle lets the worker threads
    of `buffer`/`parmap` do — the number of source elements pulled is at most the number of
    answers handed to the consumer (values, plus 1 if the last request raised) plus
    `slackAll ops` = Σ per-operator constants: `map`/`peek`/`accumulate` 0, `head` 1,
    `buffer n` n+2, `parmap` 2·concurrency+3.
    Imported (not proved here): the last two constants are the look-ahead bounds of the thread-backed
    operators (`lookahead`, the guard of the oracle-driven prefetch in `next`), i.e. C08's
    `Fifo.C08_parmap_lookahead` for `parmap` and `Buffer.C08_buffer_lookahead` (Props/C08Buffer.lean) for `buffer`.
    What is proved here is that these bounds compose additively along the chain and that the
    ordinary generators add nothing (`head`: one element). -/
theorem C03_incremental (ops : List Op) (hone : ∀ op ∈ ops, op.oneOne = true)
    (vals : List Val) (err : Option Err) (orc : List Bool) (k fuel : Nat) :
    let r := takeK fuel k (build ops) (World.init vals err orc)
    r.2.1 ≠ some .fuel →
    r.2.2.2.src.pulled ≤
      r.1.length + (match r.2.1 with
        | some x => cnt x
        | Option.none => 0) + slackAll ops := by
  intro r h
  obtain ⟨i0, r0, t0⟩ := build_inv ops hone vals err orc
  obtain ⟨a, b, d⟩ := takeK_inv rfl h i0 r0
  have := pulled_le _ _ a b
  rw [d, t0, takeK_ops, slackAll_build, Nat.zero_add] at this
  exact this

/-- … in particular: taking the first `k` outputs pulls at most `k + slackAll ops` source elements. -/
theorem C03_incremental_k (ops : List Op) (hone : ∀ op ∈ ops, op.oneOne = true)
    (vals : List Val) (err : Option Err) (orc : List Bool) (k fuel : Nat) :
    let r := takeK fuel k (build ops) (World.init vals err orc)
    r.2.1 = Option.none → r.1.length = k ∧ r.2.2.2.src.pulled ≤ k + slackAll ops := by
  intro r h
  have hl := takeK_len h
  have := C03_incremental ops hone vals err orc k fuel (h ▸ nofun)
  rw [h, hl] at this
  exact ⟨hl, this⟩

/-- Consuming the same `Stream` again starts from scratch: whatever was consumed before (any `k`,
    any budget), re-iterating puts every stage back into the state `build ops` — so the second
    consumption again yields the sequential meaning (`C03_pull_eq_sem`).  (On the pinned code
    `accumulate` violated this: F23, `Legacy/PipelineReiter.lean`.) -/
theorem C03_reiterate (ops : List Op) (vals : List Val) (err : Option Err) (orc : List Bool) (k fuel : Nat) :
    rebuild (takeK fuel k (build ops) (World.init vals err orc)).2.2.1 = build ops :=
  rebuild_eq takeK_ops

/-! ### operator laws: the sequential meaning against the list library -/

/-- `shuffle(n)` yields a permutation of its input: for every buffer size `n ≥ 1`, every sequence
    of `randrange` answers `idx` and every final-shuffle script `perm`, on every cleanly ending input -/
theorem C03_shuffle_perm (n : Nat) (hn : 0 < n) (idx perm : List Nat) (vals : List Val) :
    (sem (.shuffle n idx perm) ⟨vals, Option.none⟩).vals.Perm vals ∧
    (sem (.shuffle n idx perm) ⟨vals, Option.none⟩).err = Option.none := by
  have := semShuffle_perm n hn perm vals [] idx (Nat.zero_le _)
  simpa [sem] using this

/-- `map f` where `f` succeeds on every element is `List.map` -/
theorem C03_law_map (f : Val → Res) (g : Val → Val) (s : Strm) (h : ∀ v ∈ s.vals, f v = .ok (g v)) :
    sem (.map f) s = ⟨s.vals.map g, s.err⟩ := by
  have := semMap_append f g s.vals [] s.err h
  rwa [List.append_nil, semMap, Strm.prepend, List.append_nil] at this

/-- `map f` ends with the error of the first element on which `f` raises, after the results of the
    elements before it; nothing after it matters -/
theorem C03_law_map_first_failure (f : Val → Res) (g : Val → Val) (pre post : List Val) (x : Val)
    (e : Option Err) (x' : Err) (h : ∀ v ∈ pre, f v = .ok (g v)) (hx : f x = .raise x') :
    sem (.map f) ⟨pre ++ x :: post, e⟩ = ⟨pre.map g, some x'⟩ := by
  show semMap f (pre ++ x :: post) e = _
  rw [semMap_append f g pre _ e h, semMap, hx]
  exact congrArg (Strm.mk · (some x')) (List.append_nil _)

/-- `filter p` with a predicate that does not raise is `List.filter` (Python truth value of `p v`) -/
theorem C03_law_filter (p : Val → Res) (b : Val → Val) (s : Strm) (h : ∀ v ∈ s.vals, p v = .ok (b v)) :
    sem (.filter p) s = ⟨s.vals.filter (fun v => (b v).truthy), s.err⟩ := semFilter_total p b s.vals s.err h

/-- on a cleanly ending stream `head n` is `take n` … -/
theorem C03_law_head (n : Nat) (vals : List Val) :
    sem (.head n) ⟨vals, Option.none⟩ = ⟨vals.take n, Option.none⟩ := by
  rw [sem]
  split
  · rfl
  next h => rw [List.take_of_length_le (Nat.le_of_not_lt h)]

/-- … and in general it is `take n` with the source's ending kept only if the source has no
    more than `n` values -/
theorem C03_law_head_general (n : Nat) (s : Strm) :
    (sem (.head n) s).vals = s.vals.take n ∧
    (sem (.head n) s).err = if n < s.vals.length then Option.none else s.err := by
  rw [sem]
  split
  · exact ⟨rfl, rfl⟩
  next h => exact ⟨(List.take_of_length_le (Nat.le_of_not_lt h)).symm, rfl⟩

/-- on a cleanly ending stream `tail n` is `drop (length − n)`; after a failing source it yields nothing -/
theorem C03_law_tail (n : Nat) (vals : List Val) :
    sem (.tail n) ⟨vals, Option.none⟩ = ⟨vals.drop (vals.length - n), Option.none⟩ ∧
    ∀ e, sem (.tail n) ⟨vals, some e⟩ = ⟨[], some e⟩ := ⟨rfl, fun _ => rfl⟩

/-- `batch n` (`n ≥ 1`): the output is a list of Python lists `ls` such that every batch has between
    1 and `n` elements, all but the last exactly `n`, the source's ending is kept, and — when the
    source ends cleanly — their concatenation is the input -/
theorem C03_law_batch (n : Nat) (hn : 0 < n) (s : Strm) :
    ∃ ls : List (List Val),
      (sem (.batch n) s).vals = ls.map Val.ofList ∧ (sem (.batch n) s).err = s.err ∧
      (s.err = Option.none → ls.flatten = s.vals) ∧
      (∀ b ∈ ls, 0 < b.length ∧ b.length ≤ n) ∧ (∀ b ∈ ls.dropLast, b.length = n) := by
  obtain ⟨ls, h1, h2, h3, h4, h5⟩ := semBatch_shape n hn s.vals s.err [] hn
  exact ⟨ls, h1, h2, fun he => by simpa using h3 he, h4, h5⟩

/-- `unbatch ∘ batch n = id` on every cleanly ending stream -/
theorem C03_law_unbatch_batch (n : Nat) (hn : 0 < n) (vals : List Val) :
    semAll [.batch n, .unbatch] ⟨vals, Option.none⟩ = ⟨vals, Option.none⟩ := by
  obtain ⟨ls, h1, h2, h3, _, _⟩ := C03_law_batch n hn ⟨vals, Option.none⟩
  simp only [semAll, sem] at h1 h2 h3 ⊢
  rw [h1, h2, semUnbatch_ofLists, h3 trivial]

/-- `filter_exceptions(drop, keep)`: an element is raised iff it is an exception object whose class
    is neither kept nor dropped … -/
theorem C03_law_filterExc_verdict (d k : ExcSel) (v : Val) (e : Err) :
    excVerdict d k v = .raise e ↔
      ∃ t a, v = .exc t a ∧ k.has t = false ∧ d.has t = false ∧ e = ⟨t, a⟩ := excVerdict_raise_iff d k v e

/-- … the stream ends with exactly the *first* such element (raised), after the kept elements
    before it … -/
theorem C03_law_filterExc_first (d k : ExcSel) (pre post : List Val) (x : Val) (e : Option Err) (x' : Err)
    (h : ∀ v ∈ pre, (excVerdict d k v).isRaise = false) (hx : excVerdict d k x = .raise x') :
    sem (.filterExc d k) ⟨pre ++ x :: post, e⟩ =
      ⟨pre.filter (fun v => (excVerdict d k v).isKeep), some x'⟩ := by
  show semFilterExc d k (pre ++ x :: post) e = _
  rw [semFilterExc_append d k pre _ e h, semFilterExc, hx]
  exact congrArg (Strm.mk · (some x')) (List.append_nil _)

/-- … and without such an element it is `List.filter` on "kept", with the source's ending -/
theorem C03_law_filterExc_clean (d k : ExcSel) (s : Strm)
    (h : ∀ v ∈ s.vals, (excVerdict d k v).isRaise = false) :
    sem (.filterExc d k) s = ⟨s.vals.filter (fun v => (excVerdict d k v).isKeep), s.err⟩ := by
  have := semFilterExc_append d k s.vals [] s.err h
  rwa [List.append_nil, semFilterExc, Strm.prepend, List.append_nil] at this

/-- `groupby key` (with the documented materialising `map`) on a cleanly ending stream, `key` not
    raising: the output is a list of `(key, members)` pairs with non-empty member lists of constant
    key whose concatenation is the input, and neighbouring groups have different keys (the runs
    are maximal) — which determines the grouping uniquely -/
theorem C03_law_groupby (key : Val → Res) (k : Val → Val) (vals : List Val)
    (hk : ∀ v ∈ vals, key v = .ok (k v)) :
    ∃ gs : List (Val × List Val),
      sem (.groupby key) ⟨vals, Option.none⟩ = ⟨gs.map (fun g => Val.pair g.1 (Val.ofList g.2)), Option.none⟩ ∧
      (gs.map (·.2)).flatten = vals ∧ (∀ g ∈ gs, g.2 ≠ [] ∧ ∀ x ∈ g.2, k x = g.1) ∧ adjDistinct gs := by
  exact semGroup_shape key k vals hk

/-- `accumulate g` with an accumulator function that does not raise is the running fold
    (`scanl` without its seed); without an initializer the first element is the seed -/
theorem C03_law_accumulate (g : Val → Val → Res) (h : Val → Val → Val) (hg : ∀ z v, g z v = .ok (h z v))
    (vals : List Val) (e : Option Err) (z x : Val) :
    sem (.accumulate g (some z)) ⟨vals, e⟩ = ⟨(vals.scanl h z).tail, e⟩ ∧
    sem (.accumulate g Option.none) ⟨x :: vals, e⟩ = ⟨vals.scanl h x, e⟩ := by
  refine ⟨semAcc_total g h hg vals e z, ?_⟩
  simp only [sem, semAcc, semAcc_total g h hg vals e x, Strm.cons]
  cases vals with
  | nil => rfl
  | cons w r => simp [List.scanl_cons]

/-- `buffer n` and `peek` are the identity; `parmap f` without flags is `map f` -/
theorem C03_law_identity (n : Nat) (f : Val → Res) (c : Nat) (s : Strm) :
    sem (.buffer n) s = s ∧ sem .peek s = s ∧ sem (.parmap f c false false) s = sem (.map f) s :=
  ⟨rfl, rfl, semParmap_plain f s.vals s.err⟩

/-! ### non-vacuity -/

/-- a concrete run: `range(7).map(+1).batch(3).unbatch().head(4)` consumed to exhaustion -/
example :
    let ops : List Op := [.map (Fn.eval (.add 1)), .batch 3, .unbatch, .head 4]
    let vals : List Val := [.int 0, .int 1, .int 2, .int 3, .int 4, .int 5, .int 6]
    let r := takeK 50 9 (build ops) (World.init vals Option.none [])
    r.1 = [.int 1, .int 2, .int 3, .int 4] ∧ r.2.1 = some .done ∧ r.2.2.2.src.pulled = 6 ∧
    semAll ops ⟨vals, Option.none⟩ = ⟨[.int 1, .int 2, .int 3, .int 4], Option.none⟩ := by
  decide

/-- errors are positional: `map(raise on multiples of 3).head(2)` over `1,2,3` (and a source that
    would fail after that) delivers `1, 2`; then `head` pulls the third element to find out that it
    is done, `map` raises on it, and that error is what the consumer gets (the code's behaviour,
    see `sem (.head n)`); the source's own error is never reached -/
example :
    let ops : List Op := [.map (Fn.eval (.raiseIfMul 3 1)), .head 2]
    let vals : List Val := [.int 1, .int 2, .int 3]
    semAll ops ⟨vals, some ⟨2, 0⟩⟩ = ⟨[.int 1, .int 2], some ⟨1, 3⟩⟩ ∧
    (takeK 50 5 (build ops) (World.init vals (some ⟨2, 0⟩) [])).2.1 = some (.err ⟨1, 3⟩) := by
  decide

/-- the incremental bound is attained: `buffer(1).map(+1).head(5)` over 12 elements with the
    always-prefetch oracle has pulled 9 = 5 handed + (3 + 0 + 1) when the consumer sees the end -/
example :
    let ops : List Op := [.buffer 1, .map (Fn.eval (.add 1)), .head 5]
    let vals : List Val := (List.range 12).map (fun (i : Nat) => Val.int i)
    let r := takeK 100 6 (build ops) (World.init vals Option.none (List.replicate 40 true))
    (∀ op ∈ ops, op.oneOne = true) ∧ r.1.length = 5 ∧ r.2.1 = some .done ∧
    r.2.2.2.src.pulled = 9 ∧ slackAll ops = 4 := by
  decide

end Pipeline
