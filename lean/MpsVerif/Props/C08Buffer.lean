import MpsVerif.Proofs.BufferLive
/-!
# C08 — bounded look-ahead of `buffer(n)`

For every `maxsize`, stream length, source ending, stop position and schedule.
-/
namespace Buffer

/-- source elements pulled but not yet handed to the consumer never exceed `maxsize + 2` -/
theorem C08_buffer_lookahead (c : Cfg) (s : State) (hr : Reachable c s) :
    s.pulled - s.out.length ≤ c.maxsize + 2 := by
  have := (all_reachable c hr).flow.pulled_le
  omega

/-- the queue never holds more than `maxsize` entries -/
theorem C08_buffer_queue_bound (c : Cfg) (s : State) (hr : Reachable c s) :
    s.queue.length ≤ c.maxsize := (all_reachable c hr).flow.room

/-- non-vacuity: the bound `maxsize + 2` is attained (maxsize 1: one delivered to the generator body
    but not yet yielded, one queued, one held by the worker) -/
example :
    let c : Cfg := { n := 5, srcEnd := .clean, maxsize := 1 }
    ∃ s, Reachable c s ∧ s.pulled - s.out.length = c.maxsize + 2 := by
  refine ⟨_, ⟨[.pull, .wcheck, .put, .get, .pull, .wcheck, .put, .pull, .wcheck], rfl⟩, ?_⟩
  decide

/-- the filling state: the consumer holds element 0 (taken, not yet yielded), `k` elements queued -/
def fillState (k : Nat) : State :=
  { pulled := 1 + k, wpc := .idle, queue := (List.range k).map (fun j => QItem.item (j + 1)),
    flag := false, cpc := .got 0, out := [], raised := false, ended := false, closeReq := false }

theorem fill_reachable (c : Cfg) (k : Nat) (hk : k ≤ c.maxsize) (hm : 1 ≤ c.maxsize)
    (hn : 1 + k ≤ c.n) : Reachable c (fillState k) := by
  induction k with
  | zero =>
    have h1 := (Core.Reach.refl (step c) init).tail (step_complete (.pull rfl hn))
    have h2 := h1.tail (step_complete (.wcheck rfl rfl))
    have h3 := h2.tail (step_complete (.put rfl hm))
    exact h3.tail (step_complete (.getItem rfl rfl))
  | succ k ih =>
    have h1 := (ih (by omega) (by omega)).tail (step_complete (.pull rfl hn))
    have h2 := h1.tail (step_complete (.wcheck rfl rfl))
    have hl : (fillState k).queue.length < c.maxsize := by
      simp only [fillState, List.length_map, List.length_range]
      omega
    have h3 := h2.tail (step_complete (.put rfl hl))
    have : fillState (k + 1) =
        { fillState k with pulled := 1 + k + 1, queue := (fillState k).queue ++ [.item (1 + k)] } := by
      simp only [fillState, List.range_succ, List.map_append, List.map_cons, List.map_nil, Nat.add_comm]
    exact this ▸ h3

/-- **C08, tightness for every `maxsize ≥ 1`**: the bound `maxsize + 2` of `C08_buffer_lookahead`
    is attained in every configuration whose source is long enough — it cannot be lowered for
    any buffer size, not only for the sample of the `example` above. -/
theorem C08_buffer_lookahead_attained (c : Cfg) (hm : 1 ≤ c.maxsize) (hn : c.maxsize + 2 ≤ c.n) :
    ∃ s, Reachable c s ∧ s.pulled - s.out.length = c.maxsize + 2 := by
  have hr := fill_reachable c c.maxsize (Nat.le_refl _) hm (by omega)
  have hn' : (fillState c.maxsize).pulled < c.n := by
    show 1 + c.maxsize < c.n
    omega
  refine ⟨_, hr.tail (step_complete (.pull rfl hn')), ?_⟩
  show 1 + c.maxsize + 1 - 0 = c.maxsize + 2
  omega

/-- the queue of `buffer(maxsize)` does fill up to `maxsize` entries, for every `maxsize ≥ 1` -/
theorem C08_buffer_queue_bound_attained (c : Cfg) (hm : 1 ≤ c.maxsize) (hn : c.maxsize + 1 ≤ c.n) :
    ∃ s, Reachable c s ∧ s.queue.length = c.maxsize :=
  ⟨fillState c.maxsize, fill_reachable c c.maxsize (Nat.le_refl _) hm (by omega),
    (List.length_map ..).trans List.length_range⟩
end Buffer
