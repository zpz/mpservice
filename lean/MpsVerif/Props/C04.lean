import MpsVerif.Proofs.ServletLift
/-!
# C04 — a failing request fails alone, with its original error: the servlet-tree layer

Same model as C02 (`Model/Servlet.lean`).  A failure is a value `Val.exc tag payload` returned by
`preprocess`, by `call` (for one element or, batched, for the whole batch) or produced by an
ensemble (`EnsembleError` = tag 0).  All theorems hold for every action list of the node models
(every interleaving, batch formation, completion order) and every worker spec / failure plan.

`C04_original_type`: in the model an exception value is never rebuilt on its way — what reaches
the output queue is the very value produced at the failure site (`pre x`, `f (pre x)`, the batch
error) or the value that entered; that wrapping in `RemoteException` and unwrapping in
`Server._gather_output` preserve class, args and the traceback (as text across a process
boundary) is C15's theorem (`Props/C15.lean`, RemoteExc model) and is not re-proved here; the
monitor checks class / args / failure-site frame on every run of the real code.
-/
namespace Servlet

/-- **isolation**: under a node contract and distinct uids, the outcome delivered for request `u`
    is an allowed outcome of its OWN input; when the denotation is deterministic for that input
    (no fail-fast ensemble and no failing batched call on its path: `o x = [r]`) it IS `r`, whatever
    the other requests, their failures, the schedule -/
theorem C04_isolated {o : Val → List Val} {recv : List Msg} {sentG : List GMsg}
    (h : Contract o recv sentG) (hn : (recv.map (·.1)).Nodup) (u : Nat) (x y : Val)
    (hx : (u, x) ∈ recv) (hy : (u, y) ∈ sentG.map gmsg) :
    y ∈ o x ∧ ∀ r, o x = [r] → y = r := by
  have := h.no_crosstalk hn hx hy
  exact ⟨this, fun r hr => List.mem_singleton.mp (hr ▸ this)⟩

/-- **isolation, whole tree**: in every behaviour of every concrete servlet tree with distinct input
    uids, the outcome of the request that entered as `(u, x)` is an allowed outcome of `x` alone; if
    the denotation is deterministic for `x` (`outs t x = [r]`: no fail-fast ensemble and no failing
    batched call on its path) it is `r` — whatever the other requests are, whether they fail, and
    whatever the schedule -/
theorem C04_isolated_tree (t : Tree) (hw : WF t) (σ : List Ev) (htr : Tr t σ) (hd : DistinctIn σ)
    (u : Nat) (x y : Val) (hx : Ev.inp (u, x) ∈ σ) (hy : Ev.out (u, y) ∈ σ) :
    y ∈ outs t x ∧ ∀ r, outs t x = [r] → y = r := by
  have h := (tree_sat t hw σ htr hd).own hd hx hy
  exact ⟨h, fun r hr => List.mem_singleton.mp (hr ▸ h)⟩

/-- **the outcome is a function of the request's own input** for every tree without fail-fast
    ensembles and without batched workers that may fail as a whole (`Det t`): in every behaviour of
    the concrete tree, whatever else is in flight, request `(u, x)` is answered with THE value
    `r` determined by `t` and `x` alone -/
theorem C04_deterministic_tree (t : Tree) (hw : WF t) (hdet : Det t) (σ : List Ev) (htr : Tr t σ)
    (hd : DistinctIn σ) (u : Nat) (x y : Val) (hx : Ev.inp (u, x) ∈ σ) (hy : Ev.out (u, y) ∈ σ) :
    ∃ r, outs t x = [r] ∧ y = r := by
  obtain ⟨r, hr⟩ := outs_det t hdet x
  exact ⟨r, hr, (C04_isolated_tree t hw σ htr hd u x y hx hy).2 r hr⟩

/-- **an innocent request does not fail**: if no allowed outcome of `x` is an exception (no
    failure site on any path `x` can take through `t`), the request is never answered with an
    exception — other requests' failures cannot reach it -/
theorem C04_innocent_tree (t : Tree) (hw : WF t) (σ : List Ev) (htr : Tr t σ) (hd : DistinctIn σ)
    (u : Nat) (x y : Val) (hx : Ev.inp (u, x) ∈ σ) (hy : Ev.out (u, y) ∈ σ)
    (hin : ∀ r ∈ outs t x, r.isExc = false) : y.isExc = false :=
  hin y (C04_isolated_tree t hw σ htr hd u x y hx hy).1

/-- a request whose own path has no failure is never answered with an exception because of others:
    for a simple servlet, an exception outcome is the request's own input exception, its own
    `preprocess` / `call` failure, or the failure of the batched call it was part of -/
theorem C04_isolated_worker (w : WSpec) (hb : Wk.BerrsOk w) (as : List Wk.Act) (s : Wk.State)
    (hr : Core.run (Wk.step w) Wk.init as = some s) :
    ∀ t ∈ s.sentG, t.2.2 = t.2.1 ∨ t.2.2 = w.pre t.2.1 ∨ t.2.2 = w.f (w.pre t.2.1) ∨
      (w.bs ≠ 0 ∧ t.2.2 ∈ w.berrs) :=
  fun t ht => mem_wouts ((Wk.contract w hb as s hr).1.own t ht).2

/-- **exception short-circuit (denotation)**: an exception value entering any servlet tree is its
    own and only outcome -/
theorem C04_shortcircuit (t : Tree) (x : Val) (h : x.isExc = true) : outs t x = [x] :=
  outs_exc t x h

/-- **exception short-circuit (operational), simple servlet**: `call` is never invoked on an
    exception value (not even inside a batch), every call gets 1 … max(1, batch_size) elements, at
    most `nw` calls run at once, and an exception taken from `q_in` is forwarded unchanged -/
theorem C04_shortcircuit_worker (w : WSpec) (hb : Wk.BerrsOk w) (as : List Wk.Act) (s : Wk.State)
    (hr : Core.run (Wk.step w) Wk.init as = some s) :
    (∀ c ∈ s.calls, c ≠ [] ∧ c.length ≤ max 1 w.bs ∧ ∀ v ∈ c, v.isExc = false) ∧
    s.busy.length ≤ w.nw ∧
    (∀ t ∈ s.sentG, t.2.1.isExc = true → t.2.2 = t.2.1) := by
  have h := Wk.inv_run hb hr
  refine ⟨h.call, h.conc, ?_⟩
  intro t ht hx
  have := h.good t (List.mem_append_left _ ht)
  rw [wouts_exc w _ hx] at this
  simpa using this

/-- … switch: `switch` is never called on an exception value … -/
theorem C04_shortcircuit_switch (ms : List (Val → List Val)) (sel : Val → Nat) (as : List Sw.Act)
    (s : Sw.State) (hr : Core.run (Sw.step ms sel) Sw.init as = some s) :
    (∀ v ∈ s.switched, v.isExc = false) ∧ (∀ p ∈ s.pend, p.2.2.isExc = false) := by
  have h := Sw.inv_run hr
  exact ⟨h.sw, fun p hp => (h.pok p hp).2.1⟩

/-- … ensemble: an exception value is never handed to a member -/
theorem C04_shortcircuit_ensemble (ms : List (Val → List Val)) (ff : Bool) (hpos : 0 < ms.length)
    (as : List Ens.Act) (s : Ens.State) (hr : Core.run (Ens.step ms ff) Ens.init as = some s)
    (hn : (s.recv.map (·.1)).Nodup) : ∀ m ∈ s.pend, m.2.2.isExc = false :=
  fun m hm => ((Ens.inv_run hpos hr hn).pend m hm).2.2

/-- **ensemble rules, fail_fast**: for a non-exception input the allowed outcomes are exactly
    (a) the list of the members' results in member order when none is an exception, or
    (b) an `EnsembleError` whose result list holds member results received so far — none of them an
    exception (`p ∈ partials …`, see `mem_partials`) — plus ONE failing member result `y` at its
    member index `e` (the first exception received), with `n` = the number of results received.
    (`choices` / `partials`: one allowed outcome per member, `mem_choices` / `mem_partials`.) -/
theorem C04_ensemble_rules_failfast (ts : List Tree) (x r : Val) (hx : x.isExc = false) :
    r ∈ outs (.ens ts true) x ↔
      (∃ ys, ys ∈ choices (outsEach ts x) ∧ ys.any Val.isExc = false ∧ r = ofList ys) ∨
      (∃ p, p ∈ partials (outsEach ts x) ∧ ∃ e, e < ts.length ∧ p[e]? = some .none ∧
        ∃ y, y ∈ (outsEach ts x).getD e [] ∧ y.isExc = true ∧
          r = ensErr (p.set e (some y)) (filled p + 1)) := by
  have hl : (outsEach ts x).length = ts.length := by simp [outsEach_eq]
  simp only [outs, hx, Bool.false_eq_true, if_false]
  rw [mem_ensOuts_ff, hl]

/-- **ensemble rules, no fail_fast**: the list of ALL members' results in member order (exceptions
    included as values), replaced by an `EnsembleError` carrying that list iff all of them are
    exceptions -/
theorem C04_ensemble_rules (ts : List Tree) (x r : Val) (hx : x.isExc = false) :
    r ∈ outs (.ens ts false) x ↔
      ∃ ys, ys ∈ choices (outsEach ts x) ∧
        r = if ys.all Val.isExc then ensErr (ys.map some) ys.length else ofList ys := by
  simp only [outs, hx, Bool.false_eq_true, if_false]
  rw [mem_ensOuts_nff]
  rfl

/-- **a failing batch fails exactly its members**: every finished `call` on a batch `B`
    (1 ≤ |B| ≤ max(1, batch_size), taken from the held items) produced exactly one message per
    member of `B`, under that member's uid, in order — all carrying the batch's error when the call
    raised, each carrying its own element's result otherwise (`zip(uids, results)`) — and those
    messages, nothing else, went to the output queue for that call -/
theorem C04_batch_exact (w : WSpec) (hb : Wk.BerrsOk w) (as : List Wk.Act) (s : Wk.State)
    (hr : Core.run (Wk.step w) Wk.init as = some s) :
    ∀ e ∈ s.blog, e.1 ≠ [] ∧ e.1.length ≤ max 1 w.bs ∧
      (∀ err, w.bs ≠ 0 → w.bfail (e.1.map (·.2.2)) = some err →
        e.2 = e.1.map (fun t => (t.1, t.2.1, err))) ∧
      ((w.bs = 0 ∨ w.bfail (e.1.map (·.2.2)) = .none) →
        e.2 = e.1.map (fun t => (t.1, t.2.1, w.f t.2.2))) ∧
      (∀ t ∈ e.2, t ∈ s.sentG ++ s.emitq) := by
  intro e he
  obtain ⟨h1, h2, h3, h4⟩ := (Wk.inv_run hb hr).blog e he
  refine ⟨h2, h3, ?_, ?_, h4⟩
  · intro err hbs hf
    rw [h1]
    simp [Wk.results, hbs, hf]
  · intro hc
    rw [h1]
    rcases hc with hc | hc
    · simp [Wk.results, hc]
    · unfold Wk.results
      split
      · rfl
      · simp [hc]

/-- … and only its members: a request that is neither an exception on entry nor rejected by
    `preprocess` is answered out of exactly one finished `call`, recorded in `blog` with the batch it
    was put in; its answer is its own element's result, or — batched only — the error that call
    raised on THAT batch.  So its outcome depends on its own input and on the batch it shared, on
    nothing else -/
theorem C04_batch_members_only (w : WSpec) (hb : Wk.BerrsOk w) (as : List Wk.Act) (s : Wk.State)
    (hr : Core.run (Wk.step w) Wk.init as = some s) :
    ∀ t ∈ s.sentG, t.2.1.isExc = false → (w.pre t.2.1).isExc = false →
      ∃ e ∈ s.blog, t ∈ e.2 ∧ ∃ t0 ∈ e.1, t.1 = t0.1 ∧ t.2.1 = t0.2.1 ∧
        (t.2.2 = w.f t0.2.2 ∨
         (w.bs ≠ 0 ∧ ∃ err, w.bfail (e.1.map (·.2.2)) = some err ∧ t.2.2 = err)) := by
  intro t ht hx hp
  rcases (Wk.inv_run hb hr).src t (List.mem_append_left _ ht) with h1 | h1 | ⟨e, he, hte⟩
  · exact absurd (hx.symm.trans h1.1) Bool.false_ne_true
  · exact absurd (hp.symm.trans h1.2.1) Bool.false_ne_true
  · have h2 := ((Wk.inv_run hb hr).blog e he).1
    obtain ⟨t0, h0, q⟩ := Wk.mem_results w e.1 (h2 ▸ hte)
    exact ⟨e, he, hte, t0, h0, q⟩

/-- **original error**: the value a simple servlet puts on its output queue for a failing request
    is the very value that entered (`x`), or the one `preprocess` / `call` / the batched call
    produced — never a rebuilt one (class and args across `RemoteException`: C15) -/
theorem C04_original_type (w : WSpec) (x y : Val) (h : y ∈ wouts w x) :
    y = x ∨ y = w.pre x ∨ y = w.f (w.pre x) ∨ y ∈ w.berrs :=
  (mem_wouts h).imp_right fun h1 => h1.imp_right fun h2 => h2.imp_right And.right

/-! non-vacuity: a batched servlet (batch_size 2, two workers); the batch {1, 2} fails as a whole
    because of element 2, request 3 (a batch of its own) and the exception value under uid 4 are
    unaffected -/
def wB : WSpec :=
  { pre := id, f := fun x => .cons x (.nat 9), bs := 2,
    bfail := fun B => if B.contains (.nat 2) then some (.exc 3009 .nil) else none,
    berrs := [.exc 3009 .nil], nw := 2 }

example :
    ∃ s, Core.run (Wk.step wB) Wk.init
        [.arrive (1, .nat 1), .arrive (2, .nat 2), .arrive (3, .nat 3), .arrive (4, .exc 7 .nil),
         .take, .take, .take, .take, .start [true, true, false], .start [true], .finish 1, .finish 0,
         .emit 0, .emit 0, .emit 0, .emit 0] = some s ∧
      Wk.Quiescent s ∧ s.calls = [[.nat 1, .nat 2], [.nat 3]] ∧
      s.sentG.map gmsg = [(4, .exc 7 .nil), (3, .cons (.nat 3) (.nat 9)), (1, .exc 3009 .nil), (2, .exc 3009 .nil)] := by
  refine ⟨_, rfl, ?_⟩
  decide

end Servlet
