import MpsVerif.Proofs.ServletLift
import MpsVerif.Props.C01
/-!
# C02 — Server answers every request with its own result (no cross-talk): the servlet-tree layer

Model: `Model/Servlet.lean`.  `outs t x` is the list of allowed outcomes of a request with input
`x` through the servlet tree `t` (sequential = composition, ensemble = member results in member
order / `EnsembleError`, switch = the selected member; a relation rather than a function because a
fail-fast `EnsembleError` carries the member results received so far and a failing batched call
fails whoever shares the batch).  `Contract o recv sentG` (Proofs/ServletContract.lean): every
message put on the node's output queue is `(u, y)` for a received `(u, x)` with `y ∈ o x`, and no
received message is answered more often than it was received; `Complete` = exactly once.

The theorems hold for **every action list** of the node models: any number of competing workers,
any completion and emission order, any batch formation, any interleaving of the ensemble's enqueue
and dequeue threads with its members, any order in which member results arrive, any worker
functions and failure plans (`WSpec` is universally quantified), any member outcome relations.
The layer-2 proviso — the uids handed to the tree are pairwise distinct — is what the request-id
counter guarantees (Ledger model); `C02_uid_distinct_needed` shows it cannot be dropped.

Whole trees (`Model/ServletTree.lean`, `Proofs/ServletLift.lean`): in the node models a member of
an ensemble / switch is a *contract box* (answers any message it holds, at any time, with any outcome
its own `outs` allows).  `C02_tree` removes the abstraction: a behaviour of a concrete tree (`Tr t σ`)
is a run of the root node with ARBITRARY members (they may answer anything, twice, or what they never
received) whose member-boundary traces are, recursively, behaviours of the member subtrees; sequences
are wired through a joint trace.  By structural induction over the tree every such behaviour with
distinct input uids satisfies the trace contract `Sat (outs t)`: the members' contracts (induction
hypothesis) make every member step a legal box step, the node contract (`C02_node_*`) does the rest,
and each node hands every uid to a member at most once, so the proviso is passed down.
`C02_tree_exactly_one`: in a behaviour that has come to rest (`TrQ`: every real queue empty, nothing
held, no call running, nothing waiting to be put) every request that entered has exactly one answer.
-/
namespace Servlet

/-- **simple servlet** (any number of workers, single or batched, with `preprocess`): contract for
    `outs (worker w)`, for every action list; no proviso on the uids -/
theorem C02_node_worker (w : WSpec) (hb : Wk.BerrsOk w) (as : List Wk.Act) (s : Wk.State)
    (hr : Core.run (Wk.step w) Wk.init as = some s) :
    Contract (outs (.worker w)) s.recv s.sentG ∧ (Wk.Quiescent s → Complete s.recv s.sentG) :=
  Wk.contract w hb as s hr

/-- the ghost history `sentG` is the history of the real output queue: what the downstream has
    taken so far followed by what is still on `q_out` -/
theorem C02_worker_sent_is_qout (w : WSpec) (hb : Wk.BerrsOk w) (as : List Wk.Act) (s : Wk.State)
    (hr : Core.run (Wk.step w) Wk.init as = some s) : ∃ d, d ++ s.qout = s.sentG.map gmsg :=
  (Wk.inv_run hb hr).out

/-- **ensemble servlet** over member boxes `ts.map outs`: contract for `outs (ens ts ff)`, for every
    action list in which the uids received are pairwise distinct -/
theorem C02_node_ensemble (ts : List Tree) (ff : Bool) (hpos : 0 < ts.length) (as : List Ens.Act)
    (s : Ens.State) (hr : Core.run (Ens.step (ts.map outs) ff) Ens.init as = some s)
    (hn : (s.recv.map (·.1)).Nodup) :
    Contract (outs (.ens ts ff)) s.recv s.sentG ∧ (Ens.Quiescent s → Complete s.recv s.sentG) :=
  outs_ens ts ff ▸ Ens.contract (ts.map outs) ff ((List.length_map _).symm ▸ hpos) as s hr hn

/-- the ensemble hands every uid to every member at most once: the members' own proviso holds -/
theorem C02_ensemble_members_distinct (ts : List Tree) (ff : Bool) (hpos : 0 < ts.length)
    (as : List Ens.Act) (s : Ens.State)
    (hr : Core.run (Ens.step (ts.map outs) ff) Ens.init as = some s)
    (hn : (s.recv.map (·.1)).Nodup) :
    ((s.pend ++ s.mout).map (fun m => (m.1, m.2.1))).Nodup :=
  (Ens.inv_run ((List.length_map _).symm ▸ hpos) hr hn).iknd

/-- **switch servlet** over member boxes: contract for `outs (switch ts sel)`, every action list -/
theorem C02_node_switch (ts : List Tree) (sel : Val → Nat) (as : List Sw.Act) (s : Sw.State)
    (hr : Core.run (Sw.step (ts.map outs) sel) Sw.init as = some s) :
    Contract (outs (.switch ts sel)) s.recv s.sentG ∧ (Sw.Quiescent s → Complete s.recv s.sentG) :=
  outs_switch ts sel ▸ Sw.contract (ts.map outs) sel as s hr

/-- **sequential servlet**: if the first stage and the rest satisfy their contracts and the rest has
    received only what the first stage sent (its input queue is the first stage's output queue),
    the outputs of the sequence are allowed outcomes of `outs (seq (t :: ts))` for the input received
    under the same uid, at most one per uid, and the rest's uids are pairwise distinct again -/
theorem C02_seq (t : Tree) (ts : List Tree) {recvA recvB : List Msg} {sentA sentB : List GMsg}
    (hA : Contract (outs t) recvA sentA) (hB : Contract (outs (.seq ts)) recvB sentB)
    (hlink : ∀ m, recvB.count m ≤ (sentA.map gmsg).count m) (hn : (recvA.map (·.1)).Nodup) :
    (recvB.map (·.1)).Nodup ∧ (sentB.map (·.1)).Nodup ∧
    ∀ tb ∈ sentB, ∃ x, (tb.1, x) ∈ recvA ∧ tb.2.2 ∈ outs (.seq (t :: ts)) x :=
  seq_compose hA hB hlink hn

/-- … and exactly one answer per request once both stages are at rest -/
theorem C02_seq_complete {recvA recvB : List Msg} {sentA sentB : List GMsg}
    (hA : Complete recvA sentA) (hB : Complete recvB sentB) (hlink : recvB.Perm (sentA.map gmsg)) :
    ∀ m ∈ recvA, ∃ tb ∈ sentB, tb.1 = m.1 :=
  seq_complete hA hB hlink

/-- **no cross-talk**: under a contract and distinct uids, the value put on the output queue under
    uid `u` is an allowed outcome of the input that was received under `u` — computed from that
    request's own input only -/
theorem C02_no_crosstalk {o : Val → List Val} {recv : List Msg} {sentG : List GMsg}
    (h : Contract o recv sentG) (hn : (recv.map (·.1)).Nodup) (u : Nat) (x y : Val)
    (hx : (u, x) ∈ recv) (hy : (u, y) ∈ sentG.map gmsg) : y ∈ o x :=
  h.no_crosstalk hn hx hy

/-- **exactly one**: at most one answer per uid at any time; once the node is at rest (`Complete`),
    every received request has its answer -/
theorem C02_exactly_one {o : Val → List Val} {recv : List Msg} {sentG : List GMsg}
    (h : Contract o recv sentG) (hn : (recv.map (·.1)).Nodup) :
    (sentG.map (·.1)).Nodup ∧ (Complete recv sentG → ∀ m ∈ recv, ∃ t ∈ sentG, gkey t = m) :=
  ⟨h.sent_nodup hn, fun hc => hc.answered⟩

/-- **whole tree, no cross-talk**: for every servlet tree `t` (any depth, any mix of workers,
    sequences, ensembles with or without fail-fast, switches; any worker functions, failure plans,
    batch sizes, worker counts) and every behaviour `σ` of the concrete tree — every interleaving of
    every thread of every node — whose input uids are pairwise distinct: every message `(u, y)` put on
    the tree's output queue answers an earlier input `(u, x)` with an allowed outcome of THAT input,
    `y ∈ outs t x`, and no uid is answered twice -/
theorem C02_tree (t : Tree) (hw : WF t) (σ : List Ev) (htr : Tr t σ) (hd : DistinctIn σ) :
    Sat (outs t) σ :=
  tree_sat t hw σ htr hd

/-- the same, read per request: the answer for uid `u` is computed from the input that entered
    under `u` (it is the only input with that uid), and it is the only answer for `u` -/
theorem C02_tree_own_result (t : Tree) (hw : WF t) (σ : List Ev) (htr : Tr t σ) (hd : DistinctIn σ)
    (u : Nat) (x y : Val) (hx : Ev.inp (u, x) ∈ σ) (hy : Ev.out (u, y) ∈ σ) :
    y ∈ outs t x ∧ ((σ.filterMap Ev.outOf).map (·.1)).Nodup := by
  have hs := tree_sat t hw σ htr hd
  exact ⟨hs.own hd hx hy, hs.out_unique⟩

/-- **whole tree, exactly one**: in every behaviour of every concrete tree that has come to rest,
    with distinct input uids, every request that entered has an answer, it is an allowed outcome of its
    own input, and it is its only answer -/
theorem C02_tree_exactly_one (t : Tree) (hw : WF t) (σ : List Ev) (htr : TrQ t σ) (hd : DistinctIn σ)
    (u : Nat) (x : Val) (hx : Ev.inp (u, x) ∈ σ) :
    ∃ y, Ev.out (u, y) ∈ σ ∧ y ∈ outs t x ∧ ∀ y', Ev.out (u, y') ∈ σ → y' = y := by
  obtain ⟨y, hy⟩ := tree_complete t hw σ htr hd u x hx
  have hs := tree_sat t hw σ (trq_tr t σ htr) hd
  obtain ⟨h1, _⟩ := C02_tree_own_result t hw σ (trq_tr t σ htr) hd u x y hx hy
  refine ⟨y, hy, h1, fun y' hy' => ?_⟩
  exact fst_unique hs.out_unique (mem_filterMap_outOf.mpr hy') (mem_filterMap_outOf.mpr hy)

/-! non-vacuity of `C02_tree`: a concrete behaviour of an ensemble of two simple servlets (member 1
    answers before member 0) -/
def wEx (k : Nat) : WSpec :=
  { pre := id, f := fun x => .cons x (.nat k), bs := 0, bfail := fun _ => .none, berrs := [], nw := 1 }

example : TrQ (.ens [.worker (wEx 1), .worker (wEx 2)] false)
    [.inp (5, .nat 7), .out (5, ofList [.cons (.nat 7) (.nat 1), .cons (.nat 7) (.nat 2)])] := by
  simp only [TrQ, TrQAll]
  exact ⟨[.node (.arrive (5, .nat 7)), .node .enq, .node (.memberOut 1 (.cons (.nat 7) (.nat 2))),
          .node (.memberOut 0 (.cons (.nat 7) (.nat 1))), .node (.deq 0), .node (.deq 0), .node (.emit 0)],
         _, rfl, rfl, rfl, rfl, rfl,
         ⟨[.arrive (5, .nat 7), .take, .start [true], .finish 0, .emit 0], _, rfl, rfl, by decide⟩,
         ⟨[.arrive (5, .nat 7), .take, .start [true], .finish 0, .emit 0], _, rfl, rfl, by decide⟩, trivial⟩

example : Tr (.ens [.worker (wEx 1), .worker (wEx 2)] false)
    [.inp (5, .nat 7), .out (5, ofList [.cons (.nat 7) (.nat 1), .cons (.nat 7) (.nat 2)])] := by
  simp only [Tr, TrAll]
  exact ⟨[.node (.arrive (5, .nat 7)), .node .enq, .node (.memberOut 1 (.cons (.nat 7) (.nat 2))),
          .node (.memberOut 0 (.cons (.nat 7) (.nat 1))), .node (.deq 0), .node (.deq 0), .node (.emit 0)],
         _, rfl, rfl,
         ⟨[.arrive (5, .nat 7), .take, .start [true], .finish 0, .emit 0], _, rfl, rfl⟩,
         ⟨[.arrive (5, .nat 7), .take, .start [true], .finish 0, .emit 0], _, rfl, rfl⟩, trivial⟩

/-- **stream yields outcomes in input order**: `Server.stream` is `fifo_stream(data_stream,
    self._enqueue, …)` (`_server.py` 470-480), so the order of what a `stream` caller receives is
    C01's theorem about the `fifo_stream` model with `func = _enqueue` (cited, not re-proved): the
    outputs are the indices 0, 1, 2, … in order, for every completion order of the requests -/
theorem C02_stream_order (c : Fifo.Cfg) (s : Fifo.State) (hr : Fifo.Reachable c s) :
    s.out = List.range s.out.length :=
  Fifo.C01_in_order c s hr

/-! ### F2's mechanism: with a REUSED uid a fail-fast ensemble crosses results -/

def memA : Val → List Val := fun x => if x = .nat 1 then [.exc 2001 (.nat 1)] else [.cons x (.nat 1)]
def memB : Val → List Val := fun x => [.cons x (.nat 2)]

/-- Request 1 (uid 7) fails fast in member A while member B is still working on it; request 2 is
    handed the same uid 7 (recycled `id(future)`); B's late result for request 1 is filed under
    request 2, which is answered `[A(2), B(1)]` — not an allowed outcome of its own input. -/
theorem C02_uid_distinct_needed :
    ∃ (as : List Ens.Act) (s : Ens.State),
      Core.run (Ens.step [memA, memB] true) Ens.init as = some s ∧
      ∃ t ∈ s.sentG, t.2.2 ∉ eouts [memA, memB] true t.2.1 := by
  refine ⟨[.arrive (7, .nat 1), .enq, .memberOut 0 (.exc 2001 (.nat 1)), .deq 0, .emit 0,
           .arrive (7, .nat 2), .enq, .memberOut 0 (.cons (.nat 1) (.nat 2)), .deq 0,
           .memberOut 0 (.cons (.nat 2) (.nat 1)), .deq 0, .emit 0], _, rfl, ?_⟩
  decide

/-- non-vacuity: an ensemble run with out-of-order member results and two requests in flight ends
    at rest with exactly the two own results -/
example :
    ∃ s, Core.run (Ens.step [memA, memB] false) Ens.init
        [.arrive (3, .nat 1), .arrive (4, .nat 2), .enq, .enq, .memberOut 3 (.cons (.nat 2) (.nat 2)),
         .memberOut 0 (.exc 2001 (.nat 1)), .deq 0, .deq 0, .memberOut 1 (.cons (.nat 2) (.nat 1)),
         .memberOut 0 (.cons (.nat 1) (.nat 2)), .deq 1, .emit 0, .deq 0, .emit 0] = some s ∧
      Ens.Quiescent s ∧ (s.recv.map (·.1)).Nodup ∧
      s.sentG.map gmsg = [(3, ofList [.exc 2001 (.nat 1), .cons (.nat 1) (.nat 2)]),
                          (4, ofList [.cons (.nat 2) (.nat 1), .cons (.nat 2) (.nat 2)])] := by
  refine ⟨_, rfl, ?_⟩
  decide

end Servlet
