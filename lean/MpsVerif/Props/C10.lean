import MpsVerif.Proofs.TeeFair
/-!
# C10 — tee forks see identical streams and cannot wedge each other

Model: `Model/Tee.lean` (the repaired `Fork.__next__`, one action per access to shared state).
Every theorem is about every reachable state, i.e. **every** action list: every interleaving of
any number `c.n` of forks (the property needs `n ≥ 2`; the theorems need at most `n ≥ 1`) with
preemption between any two shared-state accesses (finer than lines: also between the read and the
write of `box.n += 1`), every `buffer_size` (`≥ 2` only where the real
code needs it: progress), every source length (0, 1, longer than the window) and both source
endings (exhaustion / exception after `len` elements).  Elements are identified by their index in
the source; box `len` is the terminal box that carries the source's exception.

The theorems are stated over `Tee.step` / `Core.run`, the definitions `drv tee` executes.
-/
namespace Tee

/-- Each fork's output is a prefix of the source in source order (`out = [0, 1, …, k-1]`,
    `k ≤ len`); a fork that has ended received the complete source and ended the way the source
    ended: StopIteration iff the source was exhausted, the source's exception iff it raised. -/
theorem C10_same_stream (c : Cfg) (s : State) (hr : Reachable c s) (f : Nat) (hf : f < c.n) :
    (s.forks f).out = List.range (s.forks f).out.length ∧ (s.forks f).out.length ≤ c.len ∧
    ((s.forks f).pc = .done →
      (s.forks f).out = List.range c.len ∧
      (((s.forks f).fin = some .stop ∧ c.fail = false) ∨ ((s.forks f).fin = some .exc ∧ c.fail = true))) := by
  have hi := inv_reachable hr
  have h := hi.forks f hf
  refine ⟨h.out_range, h.out_le, ?_⟩
  intro hd
  rcases h.done hd with ⟨h1, h2, h3⟩ | ⟨h1, h2, h3, h4, h5⟩
  · exact ⟨by rw [h.out_range, h3], Or.inl ⟨h1, h2.1⟩⟩
  · exact ⟨by rw [h.out_range, h4], Or.inr ⟨h1, h2⟩⟩

/-- The source is pulled once per element: pulls happen only under the source lock (so never two
    at a time), never after the source has raised (`raised = false` whenever a fork is about to call
    `next(instream)`), at most `len` elements are obtained, and every pull result becomes exactly
    one box (`boxes = pulled (+1 for the exception)`), of which at most the newest is not yet
    linked into the chain. -/
theorem C10_pull_once (c : Cfg) (s : State) (hr : Reachable c s) :
    s.pulled ≤ c.len ∧ s.boxes = s.pulled + (if s.raised = true then 1 else 0) ∧
    (s.raised = true → c.fail = true ∧ s.pulled = c.len) ∧
    s.linked ≤ s.boxes ∧ s.boxes ≤ s.linked + 1 ∧
    (∀ f, f < c.n → ((s.forks f).pc = .hPull ∨ (s.forks f).pc = .wPull) → s.lock = some f ∧ s.raised = false) ∧
    (∀ f g, f < c.n → g < c.n → ((s.forks f).pc = .hPull ∨ (s.forks f).pc = .wPull) →
      ((s.forks g).pc = .hPull ∨ (s.forks g).pc = .wPull) → f = g) := by
  have hi := inv_reachable hr
  refine ⟨hi.pulled_le, hi.boxes_eq, hi.raised_imp, hi.shape.1, hi.shape.2.1, ?_, ?_⟩
  · intro f hf hp
    exact pull_ok hi hf hp
  · intro f g hf hg hp hq
    have h1 := (pull_ok hi hf hp).1
    have h2 := (pull_ok hi hg hq).1
    rw [h1] at h2
    exact Option.some.inj h2

/-- Look-ahead: the source is never pulled more than `buffer_size + 2` elements beyond what the
    slowest fork has received — for every fork `f`, `pulled ≤ received f + bs + 2`. -/
theorem C10_lookahead (c : Cfg) (s : State) (hr : Reachable c s) (hn : 0 < c.n) (f : Nat) (hf : f < c.n) :
    s.pulled ≤ (s.forks f).out.length + c.bs + 2 := by
  obtain ⟨hi, h2⟩ := inv12_reachable hn hr
  have hb := hi.boxes_eq
  have := hi.shape
  have := hi.win
  have := h2.pop_le f hf
  have := (hi.forks f hf).inc_out
  split at hb <;> omega

/-- The window: it never holds more than `buffer_size` boxes; no popped box is still needed
    (`popped ≤ inc f`); a count never exceeds the number of forks; `with box.lock` is a mutex
    (at most one fork inside the `with` block of a box — this is what makes the read and the write
    of `box.n += 1`, which are separate actions of the model, and the separate line
    `if box.n == n_forks` see the fork's own count); and the fork that
    pops is the last fork to have counted the box, pops its own box, which is the oldest one in
    the window (so `buffer.get()` never blocks and never removes a box somebody still needs). -/
theorem C10_window (c : Cfg) (s : State) (hr : Reachable c s) (hn : 0 < c.n) :
    s.popped ≤ s.put ∧ s.put ≤ s.popped + c.bs ∧
    (∀ f, f < c.n → s.popped ≤ (s.forks f).inc) ∧
    (∀ j, s.cnt j ≤ c.n) ∧
    (∀ f g j, f < c.n → g < c.n → holdsBox (s.forks f) j = true → holdsBox (s.forks g) j = true → f = g) ∧
    (∀ f, f < c.n → (s.forks f).pc = .bGet →
      (s.forks f).cur = some s.popped ∧ s.popped < s.put ∧ ∀ g, g < c.n → s.popped < (s.forks g).inc) := by
  obtain ⟨hi, h2⟩ := inv12_reachable hn hr
  refine ⟨hi.win.1, hi.win.2, h2.pop_le, ?_, h2.mutex, ?_⟩
  · intro j
    rw [h2.cnt_eq j]
    exact countF_le _ _
  · intro f hf hp
    obtain ⟨h1, -, h4⟩ := get_own hi h2 hf hp
    exact ⟨h1, h4, (h2.pops_own hf hp).2⟩

/-- The source lock is held only inside the `try … finally: release()` regions: its holder is a
    fork between its successful acquire and its release.  In particular a fork that is between two
    calls, is returning an element, is raising StopIteration or the source's exception, or has
    ended, does not hold it, and when every fork has ended the lock is free. -/
theorem C10_lock_released (c : Cfg) (s : State) (hr : Reachable c s) :
    (∀ h, s.lock = some h → h < c.n ∧ (s.forks h).pc.locked = true) ∧
    (∀ f, f < c.n → ((s.forks f).pc = .idle ∨ (s.forks f).pc = .done ∨ (s.forks f).pc = .retStop ∨
        (s.forks f).pc = .retExc ∨ ∃ j, (s.forks f).pc = .ret j) → s.lock ≠ some f) ∧
    (Final c s → s.lock = none) := by
  have hi := inv_reachable hr
  refine ⟨hi.lock_lt, ?_, ?_⟩
  · intro f _ hp hl
    have := (hi.lock_lt f hl).2
    rcases hp with h | h | h | h | ⟨j, h⟩ <;> simp [h, Pc.locked] at this
  · intro hfin
    cases hl : s.lock with
    | none => rfl
    | some h =>
      obtain ⟨hh, hk⟩ := hi.lock_lt h hl
      simp [hfin h hh, Pc.locked] at hk

/-- Progress (no wedge).  In every reachable state in which some fork has not ended (`n ≥ 1`,
    `buffer_size ≥ 2` as `tee` asserts), within at most two steps the measure `mu` strictly
    decreases: some fork can take a productive step now, or it re-checks its wait-loop condition
    and then acquires the (free) source lock.  The consumer is part of the model (`call` is always
    enabled for a fork between calls), i.e. "every fork keeps being consumed".  The timed lock
    retries are the stutter steps (`isSpin`, `C10_measure`); fairness: `C10_fair_termination`. -/
theorem C10_progress (c : Cfg) (s : State) (hr : Reachable c s) (hn : 0 < c.n) (hbs : 2 ≤ c.bs)
    (hnf : ¬ Final c s) :
    ∃ as s', as ≠ [] ∧ as.length ≤ 2 ∧ Core.run (step c) s as = some s' ∧ mu c s' < mu c s := by
  obtain ⟨hi, h2⟩ := inv12_reachable hn hr
  exact progress c s hi h2 hbs hnf

/-- The measure never increases, and it strictly decreases on every step that is not a spin step
    of the timed lock retry loop (`isSpin`: re-reading an unmet loop condition, and the timed-out
    `acquire(timeout=0.1)` while it is unmet).  Those are the stutter steps. -/
theorem C10_measure (c : Cfg) (s : State) (hr : Reachable c s) (a : Act) (s' : State)
    (hs : step c s a = some s') :
    mu c s' ≤ mu c s ∧ (isSpin c s a = false → mu c s' < mu c s) := by
  have := mu_step (inv_reachable hr) (step_sound c s s' a hs)
  constructor
  · split at this <;> omega
  · intro h
    simp [h] at this
    omega

/-- Bounded work: every execution from the initial state contains at most
    `n * (40 * (len + 2) + 35)` steps that are not spin steps of the timed lock retry — whatever
    the schedule.  (So an infinite execution consists, from some point on, of timed-out lock
    retries only; `C10_fair_termination` shows that no fair schedule does that.) -/
theorem C10_terminates (c : Cfg) (as : List Act) (s : State) (hr : Core.run (step c) init as = some s) :
    work c init as ≤ c.n * (40 * (c.len + 2) + 35) := by
  have := work_le c as init s (inv_init c) hr
  rw [mu_init] at this
  omega

/-- No reachable state is a wedge: from every reachable state the run can be continued to a state
    in which every fork has ended (and then each has the complete stream, `C10_same_stream`). -/
theorem C10_no_wedge (c : Cfg) (s : State) (hr : Reachable c s) (hn : 0 < c.n) (hbs : 2 ≤ c.bs) :
    ∃ as s', Core.run (step c) s as = some s' ∧ Final c s' := by
  obtain ⟨hi, h2⟩ := inv12_reachable hn hr
  exact can_finish c hbs (mu c s + 1) s hi h2 (Nat.lt_succ_self _)

/-- A reachable state in which no action at all is enabled is final: the model has no deadlock. -/
theorem C10_deadlock_free (c : Cfg) (s : State) (hr : Reachable c s) (hn : 0 < c.n) (hbs : 2 ≤ c.bs)
    (hdead : ∀ a, step c s a = none) : Final c s := by
  apply Classical.byContradiction
  intro hnf
  obtain ⟨as, s', hne, _, hrun, _⟩ := C10_progress c s hr hn hbs hnf
  cases as with
  | nil => exact hne rfl
  | cons a as =>
    rw [Core.run_cons, hdead a] at hrun
    simp at hrun

/-- **No fork blocks forever** (fair termination).  An infinite execution `r : InfRun c` (any
    sequence of states and actions from a reachable state with `step (σ i) (α i) = some (σ (i+1))`)
    is never weakly fair, where weak fairness is: every action (fork, kind) that is enabled from some
    point on forever is eventually taken.  So under a weakly fair scheduler — one that lets every
    fork that can move eventually move; the timed-out `acquire(timeout=0.1)` is exactly what lets
    a waiting fork re-read its loop condition instead of waiting on the lock unboundedly — every
    execution is finite, and by `C10_deadlock_free` it ends with every fork ended.  The consumers
    are part of the model: a fork between calls always has its `call` action enabled ("every fork
    keeps being consumed").  Unfair infinite executions do exist (a fork that holds the lock is
    never scheduled again while a peer retries its timed acquire forever). -/
theorem C10_fair_termination (c : Cfg) (hn : 0 < c.n) (hbs : 2 ≤ c.bs) (r : InfRun c) : ¬ WeaklyFair c r :=
  fair_terminates c hn hbs r

/-! ## Non-vacuity: concrete schedules (recorded from runs of the real code, line-level
    preemption, 2 forks, `buffer_size = 2`) -/

/-- one element, clean end: both forks receive `[0]` and end by StopIteration; lock free -/
example :
    let c : Cfg := { n := 2, bs := 2, len := 1, fail := false }
    ∃ s, Reachable c s ∧ Final c s ∧ (s.forks 0).out = [0] ∧ (s.forks 1).out = [0] ∧
      (s.forks 0).fin = some .stop ∧ (s.forks 1).fin = some .stop ∧ s.lock = none ∧ s.pulled = 1 := by
  refine ⟨_, ⟨[⟨1, .call⟩, ⟨1, .hget⟩, ⟨1, .hget⟩, ⟨1, .acqOk⟩, ⟨1, .hget⟩, ⟨1, .pull⟩, ⟨1, .put⟩, ⟨1, .hset⟩,
      ⟨1, .rel⟩, ⟨1, .hget⟩, ⟨1, .hget⟩, ⟨1, .nget⟩, ⟨1, .acqOk⟩, ⟨1, .nget⟩, ⟨1, .srcEnd⟩, ⟨1, .rel⟩,
      ⟨1, .bacq⟩, ⟨1, .ncmp⟩, ⟨1, .inc⟩, ⟨1, .ncmp⟩, ⟨1, .brel⟩, ⟨1, .nget⟩, ⟨1, .recv⟩, ⟨1, .call⟩,
      ⟨1, .hget⟩, ⟨1, .stop⟩, ⟨0, .call⟩, ⟨0, .hget⟩, ⟨0, .hget⟩, ⟨0, .nget⟩, ⟨0, .acqOk⟩, ⟨0, .nget⟩,
      ⟨0, .srcEnd⟩, ⟨0, .rel⟩, ⟨0, .bacq⟩, ⟨0, .ncmp⟩, ⟨0, .inc⟩, ⟨0, .ncmp⟩, ⟨0, .get⟩, ⟨0, .brel⟩,
      ⟨0, .nget⟩, ⟨0, .recv⟩, ⟨0, .call⟩, ⟨0, .hget⟩, ⟨0, .stop⟩], rfl⟩, ?_⟩
  decide

/-- the source fails at its first pull: both forks end with the exception, the source is pulled
    once (`endPulls = 0`, one box: the terminal one) -/
example :
    let c : Cfg := { n := 2, bs := 2, len := 0, fail := true }
    ∃ s, Reachable c s ∧ Final c s ∧ (s.forks 0).out = [] ∧ (s.forks 0).fin = some .exc ∧
      (s.forks 1).fin = some .exc ∧ s.lock = none ∧ s.boxes = 1 ∧ s.endPulls = 0 := by
  refine ⟨_, ⟨[⟨1, .call⟩, ⟨1, .hget⟩, ⟨1, .hget⟩, ⟨1, .acqOk⟩, ⟨1, .hget⟩, ⟨1, .srcExc⟩, ⟨1, .put⟩,
      ⟨1, .hset⟩, ⟨1, .rel⟩, ⟨1, .hget⟩, ⟨1, .hget⟩, ⟨1, .nget⟩, ⟨1, .bacq⟩, ⟨1, .ncmp⟩, ⟨1, .inc⟩,
      ⟨1, .ncmp⟩, ⟨1, .brel⟩, ⟨1, .nget⟩, ⟨1, .exc⟩, ⟨0, .call⟩, ⟨0, .hget⟩, ⟨0, .hget⟩, ⟨0, .nget⟩,
      ⟨0, .bacq⟩, ⟨0, .ncmp⟩, ⟨0, .inc⟩, ⟨0, .ncmp⟩, ⟨0, .get⟩, ⟨0, .brel⟩, ⟨0, .nget⟩, ⟨0, .exc⟩], rfl⟩, ?_⟩
  decide

/-- the source fails after one element: both forks receive `[0]`, then the exception -/
example :
    let c : Cfg := { n := 2, bs := 2, len := 1, fail := true }
    ∃ s, Reachable c s ∧ Final c s ∧ (s.forks 0).out = [0] ∧ (s.forks 1).out = [0] ∧
      (s.forks 0).fin = some .exc ∧ (s.forks 1).fin = some .exc ∧ s.lock = none := by
  refine ⟨_, ⟨[⟨1, .call⟩, ⟨1, .hget⟩, ⟨1, .hget⟩, ⟨1, .acqOk⟩, ⟨1, .hget⟩, ⟨1, .pull⟩, ⟨1, .put⟩, ⟨1, .hset⟩,
      ⟨1, .rel⟩, ⟨1, .hget⟩, ⟨1, .hget⟩, ⟨1, .nget⟩, ⟨1, .acqOk⟩, ⟨1, .nget⟩, ⟨1, .srcExc⟩,
      ⟨1, .nset⟩, ⟨1, .put⟩, ⟨1, .rel⟩, ⟨1, .bacq⟩, ⟨1, .ncmp⟩, ⟨1, .inc⟩, ⟨1, .ncmp⟩, ⟨1, .brel⟩,
      ⟨1, .nget⟩, ⟨1, .recv⟩, ⟨1, .call⟩, ⟨1, .nget⟩, ⟨1, .bacq⟩, ⟨1, .ncmp⟩, ⟨1, .inc⟩, ⟨1, .ncmp⟩,
      ⟨1, .brel⟩, ⟨1, .nget⟩, ⟨1, .exc⟩, ⟨0, .call⟩, ⟨0, .hget⟩, ⟨0, .hget⟩, ⟨0, .nget⟩, ⟨0, .bacq⟩,
      ⟨0, .ncmp⟩, ⟨0, .inc⟩, ⟨0, .ncmp⟩, ⟨0, .get⟩, ⟨0, .brel⟩, ⟨0, .nget⟩, ⟨0, .recv⟩, ⟨0, .call⟩,
      ⟨0, .nget⟩, ⟨0, .bacq⟩, ⟨0, .ncmp⟩, ⟨0, .inc⟩, ⟨0, .ncmp⟩, ⟨0, .get⟩, ⟨0, .brel⟩, ⟨0, .nget⟩,
      ⟨0, .exc⟩], rfl⟩, ?_⟩
  decide

/-- the look-ahead bound is attained: fork 0 has received nothing, `pulled = 4 = 0 + bs + 2`
    (it has counted box 0, which the faster fork's pop removed from the window); the state is not
    final, so it also meets the hypotheses of `C10_progress` -/
example :
    let c : Cfg := { n := 2, bs := 2, len := 5, fail := false }
    ∃ s, Reachable c s ∧ ¬ Final c s ∧ (s.forks 0).out = [] ∧ (s.forks 1).out = [0, 1] ∧ s.pulled = 4 ∧ s.popped = 1 ∧ s.put = 3 := by
  refine ⟨_, ⟨[⟨1, .call⟩, ⟨1, .hget⟩, ⟨1, .hget⟩, ⟨1, .acqOk⟩, ⟨1, .hget⟩, ⟨1, .pull⟩, ⟨1, .put⟩, ⟨1, .hset⟩,
      ⟨1, .rel⟩, ⟨1, .hget⟩, ⟨1, .hget⟩, ⟨1, .nget⟩, ⟨1, .acqOk⟩, ⟨1, .nget⟩, ⟨1, .pull⟩, ⟨1, .nset⟩,
      ⟨1, .put⟩, ⟨1, .rel⟩, ⟨1, .bacq⟩, ⟨1, .ncmp⟩, ⟨1, .inc⟩, ⟨0, .call⟩, ⟨0, .hget⟩, ⟨0, .hget⟩,
      ⟨0, .nget⟩, ⟨1, .ncmp⟩, ⟨1, .brel⟩, ⟨1, .nget⟩, ⟨1, .recv⟩, ⟨1, .call⟩, ⟨1, .nget⟩, ⟨1, .acqOk⟩,
      ⟨1, .nget⟩, ⟨0, .bacq⟩, ⟨0, .ncmp⟩, ⟨0, .inc⟩, ⟨0, .ncmp⟩, ⟨0, .get⟩, ⟨1, .pull⟩, ⟨1, .nset⟩,
      ⟨1, .put⟩, ⟨1, .rel⟩, ⟨1, .bacq⟩, ⟨1, .ncmp⟩, ⟨1, .inc⟩, ⟨1, .ncmp⟩, ⟨1, .brel⟩, ⟨1, .nget⟩,
      ⟨1, .recv⟩, ⟨1, .call⟩, ⟨1, .nget⟩, ⟨1, .acqOk⟩, ⟨1, .nget⟩, ⟨1, .pull⟩], rfl⟩, ?_⟩
  decide

end Tee
