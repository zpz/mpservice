import MpsVerif.Proofs.AFifoSim
/-!
# C08, concurrency clause, for ASYNC worker functions — the code as it is does not limit them (finding F35)

`Stream.parmap(<async func>)` (`ParmapperAsync`) and `AsyncStream.parmap(<async func>)`
(`AsyncParmapperAsync`) hand every element to the event loop as soon as the feeder has pulled it
(`run_coroutine_threadsafe` / `create_task`); nothing but the capacity of the hand-off queue
(`2 * concurrency`, i.e. `cap + 1` slots, one element in the feeder's hand, one with the consumer) limits how
many invocations are under way.  `Model/AFifo.lean` says so in its header ("no concurrency limit: `start j`
has no `conc` guard"), and the tie (E2 / E1 runs of the real classes, `harness/scen_afifo.py`,
`harness/scen_asrv.py`) accepts exactly that behaviour.

Full statement (what the documentation of `parmap` promises and C08 states; NOT provable, false):

  theorem C08_async_concurrency (c : Cfg) (s : State) (hr : Reachable c s) : s.running.length ≤ c.conc

The witness below is the kernel-checked counterexample in the model of the code as it is; the monitor
`concurrency` of `./check C08` shows the same on the real classes (known finding F35, see KNOWN_FINDINGS.txt).
For SYNC worker functions the clause is `Fifo.C08_concurrency` (Props/C08.lean), which holds.
-/
namespace AFifo
open Fifo (Cfg)

/-- concurrency 1 (capacity 2 = `2 * concurrency`), four elements, nothing fails -/
def witnessCfg : Cfg :=
  { n := 4, srcEnd := .clean, cap := 2, conc := 1, preFail := fun _ => false, resErr := fun _ => false,
    returnExc := false }

/-- With `concurrency = 1` three invocations of an async worker function are under way at the same time
    (in general `cap + 1 = 2 * concurrency + 1` by this schedule; with the element in the feeder's hand and the
    one the consumer waits for, up to `2 * concurrency + 3`, which is what the real classes show). -/
theorem C08_async_workers_unlimited_witness :
    ∃ s, Reachable witnessCfg s ∧ s.running.length = 3 ∧ witnessCfg.conc = 1 := by
  refine ⟨_, ⟨[.pull, .fcheck, .submit, .put, .pull, .fcheck, .submit, .put, .pull, .fcheck, .submit,
               .start 0, .start 1, .start 2], rfl⟩, ?_, rfl⟩
  decide

/-- What the code as it is does guarantee (the envelope of the known finding): while the consumer is still
    iterating, at most `cap + 3` invocations are under way — the `cap + 1` slots of the hand-off queue, the
    element in the feeder's hand and the one the consumer is waiting for; for `parmap`, `cap = 2 * concurrency`,
    i.e. `2 * concurrency + 3`.  The check reports anything beyond this envelope as a new violation. -/
theorem C08_async_workers_envelope (c : Cfg) (s : State) (hr : Reachable c s) (hact : s.cpc.active = true) :
    s.running.length ≤ c.cap + 3 :=
  (inv_reachable c hr).sync.running_le ((CPc.active_sync s.cpc).trans hact)

/-- the envelope is attained up to the two hand positions by the schedule of the witness (3 = cap + 1) -/
example : witnessCfg.cap + 1 = 3 := rfl

end AFifo
