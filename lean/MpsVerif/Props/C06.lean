import MpsVerif.Proofs.LedgerInv
/-!
# C06 — backlog never exceeds capacity; slots are always returned

Model: `Model/Ledger.lean` (callers, condition variable, ledger, abstract servlet box, gather and
notifier threads).  `Reachable c callers s` quantifies over every action list, i.e. every
interleaving of any number of callers (each with its own backpressure flag), the gather thread,
the notifier and the servlet's completion order, with wait time-outs and deadline expiries
(`timeoutWait`, `expire`, `cancel`) possible at every moment.
-/
namespace Ledger

/-- the backlog (size of the ledger) never exceeds the capacity -/
theorem C06_bound (c : Cfg) (callers : List Caller) (hn : AllNew callers) (s : State)
    (hr : Reachable c callers s) : s.ledger.length ≤ c.cap :=
  (all_reachable c callers hn hr).lock.bound

/-- a rejection (immediate under backpressure, or after the wait ran out of time) leaves no
    trace: ledger, input side and output side are untouched, the lock is free again -/
theorem C06_reject_clean (c : Cfg) (s s' : State) (r : Nat)
    (h : step c s (.reject r) = some s' ∨ step c s (.noTime r) = some s' ∨ step c s (.giveUp r) = some s') :
    s'.ledger = s.ledger ∧ s'.inflight = s.inflight ∧ s'.outq = s.outq ∧ s'.nextUid = s.nextUid ∧
    (s'.get r).pc = .done .full := by
  rcases h with h | h | h
  all_goals
    obtain ⟨hc, rfl⟩ := Option.ite_some_none_eq_some.mp h
    refine ⟨rfl, rfl, rfl, rfl, ?_⟩
    rw [get_self rfl (lt_of_pc hc.1 nofun)]

/-- under backpressure a caller that finds the server full is rejected at once: from `inCS` with a
    full ledger the only enabled action of that caller is `reject` (it can never enter the wait) -/
theorem C06_backpressure_never_waits (c : Cfg) (s s' : State) (r : Nat) (hbp : (s.get r).bp = true)
    (h : step c s (.wait r) = some s') : False := by
  obtain ⟨hc, _⟩ := Option.ite_some_none_eq_some.mp h
  exact nomatch hbp.symm.trans hc.2.2

/-- every ledger entry belongs to a request that is in flight (inside the pipeline or on the
    output queue) or whose input is just being handed over; no response is ever dropped -/
theorem C06_entries_in_flight (c : Cfg) (callers : List Caller) (hn : AllNew callers) (s : State)
    (hr : Reachable c callers s) :
    (∀ e ∈ s.ledger, e ∈ s.inflight ∨ e ∈ s.outq ∨ (s.get e.2).pc = .ledgered) ∧ s.dropped = [] := by
  have h := (all_reachable c callers hn hr).cons
  refine ⟨fun (u, r) he => ?_, h.dropped⟩
  rcases (h.entry u r).mp he with hm | hg
  · exact (List.mem_append.mp hm).imp_right .inl
  · exact .inr (.inr hg.1)

/-- slots are always returned: when nothing is in flight any more the backlog is zero, whatever
    mix of successes, rejections, time-outs and cancellations happened before -/
theorem C06_slots_returned (c : Cfg) (callers : List Caller) (hn : AllNew callers) (s : State)
    (hr : Reachable c callers s) (hi : s.inflight = []) (ho : s.outq = [])
    (hl : ∀ r, (s.get r).pc ≠ .ledgered) : s.ledger = [] :=
  (all_reachable c callers hn hr).cons.ledger_nil hi ho hl

/-- a waiting caller can always leave the wait through its timer (time itself is not modelled:
    that the wait is no longer than the request's timeout is evaluated on the real code by the
    check's timed-wait accounting) -/
theorem C06_wait_can_end_partial (c : Cfg) (s : State) (r : Nat) (h : (s.get r).pc = .waiting) :
    (step c s (.timeoutWait r)).isSome = true := by
  simp only [step, if_pos h, Option.isSome_some]

/-- non-vacuity: capacity 1, two callers — the first is accepted (backlog = capacity), the second
    is rejected under backpressure -/
example :
    let c : Cfg := { cap := 1, guardSet := true }
    let callers : List Caller := [{}, {}]
    ∃ s, Reachable c callers s ∧ s.ledger.length = c.cap ∧ (s.get 1).pc = .done .full := by
  refine ⟨_, ⟨[.mint 0, .acquire 0, .testPass 0, .insert 0, .enqueue 0, .mint 1, .acquire 1, .reject 1], rfl⟩, ?_⟩
  decide

/-- the state after caller `r` (not yet started) has been accepted -/
def accepted (s : State) (r : Nat) : State :=
  { s with callers := s.callers.set r { pc := .pending, uid := some s.nextUid, fut := .pending, bp := true },
           nextUid := s.nextUid + 1, ledger := s.ledger ++ [(s.nextUid, r)],
           inflight := s.inflight ++ [(s.nextUid, r)], lock := none }

/-- one more caller is accepted: from a state with the lock free, room in the ledger and caller `r` not yet
    started, the five steps `mint, acquire, testPass, insert, enqueue` of `r` are enabled in a row -/
theorem accept_one (c : Cfg) (s : State) (r : Nat) (hl : s.lock = none) (hr : r < s.callers.length)
    (hnew : s.get r = {}) (hroom : s.ledger.length < c.cap) :
    Core.run (step c) s [.mint r, .acquire r, .testPass r, .insert r, .enqueue r] = some (accepted s r) := by
  have h2 : s.callers[r] = {} := by simpa [State.get, hr] using hnew
  simp only [Core.run, step, hr, State.get, List.getD_eq_getElem?_getD, getElem?_pos, h2, Option.getD_some,
    and_self, ↓reduceIte, State.set, hl, Option.bind_some, List.length_set, List.getElem_set_self,
    List.set_set, hroom, accepted]

theorem fill_reachable (c : Cfg) (k : Nat) (hk : k ≤ c.cap) :
    ∃ s, Reachable c (List.replicate c.cap {}) s ∧ s.lock = none ∧ s.ledger.length = k ∧
      s.callers.length = c.cap ∧ ∀ r, k ≤ r → s.get r = {} := by
  induction k with
  | zero =>
    refine ⟨init (List.replicate c.cap {}), Core.Reach.refl _ _, rfl, rfl, List.length_replicate, ?_⟩
    intro r _
    simp only [State.get, init, List.getD_eq_getElem?_getD, List.getElem?_replicate]
    split <;> rfl
  | succ k ih =>
    obtain ⟨s, ⟨as, has⟩, hl, hlen, hcl, hnew⟩ := ih (Nat.le_of_succ_le hk)
    have hstep := accept_one c s k hl (hcl ▸ hk) (hnew k (Nat.le_refl _)) (hlen ▸ hk)
    refine ⟨accepted s k, ⟨as ++ [.mint k, .acquire k, .testPass k, .insert k, .enqueue k], ?_⟩, rfl, ?_, ?_, ?_⟩
    · rw [Core.run_append, has]
      exact hstep
    · simp only [accepted, List.length_append, List.length_singleton, hlen]
    · simp only [accepted, List.length_set, hcl]
    · intro r hr
      rw [get_other (s := s) rfl (Nat.ne_of_lt hr)]
      exact hnew r (Nat.le_of_succ_le hr)

/-- **C06, tightness for every capacity**: the bound of `C06_bound` is attained — with `cap` callers the
    backlog reaches exactly `cap` (each caller accepted in turn), for every `cap`; the non-vacuity `example`
    above shows one instance together with the rejection of the next caller. -/
theorem C06_bound_attained (c : Cfg) :
    ∃ s, Reachable c (List.replicate c.cap {}) s ∧ s.ledger.length = c.cap := by
  obtain ⟨s, hr, _, hlen, _⟩ := fill_reachable c c.cap (Nat.le_refl _)
  exact ⟨s, hr, hlen⟩

end Ledger
