import MpsVerif.Proofs.ProcOutcomeLive
import MpsVerif.Proofs.ProcOutcomeThr
/-!
# C12 — Process and Thread objects report how their target really ended

Quantifiers: every outcome (`ret v` for every object `v`, `raise e`, `exit c` for every
`sys.exit` argument), every signal `sig ≥ 1` delivered in any child state before its exit
(`kill sig` is enabled there: before the target, during, between the two pipe messages, after
both), every interleaving of child / collector / logger, and every order and moment of accessor
calls (`ask a`) = all action lists.  `Reachable c s` is `∃ as, Core.run (step c) init as = some s`.
-/
namespace ProcOutcome

/-! ## resolved: nothing hangs -/

/-- Progress: in every reachable state that is not final, the system itself can move (no signal
    and no accessor call needed); in a final state the future is resolved and **every** accessor
    — `join`, `result`, `exception`, `done`, `exitcode`, `wait`, `as_completed` — returns. -/
theorem C12_resolved (c : Cfg) (s : State) (hr : Reachable c s) :
    (¬ Final s → ∃ a, a.isAsk = false ∧ a.isKill = false ∧ (step c s a).isSome = true) ∧
    (Final s → s.fut.isSome = true ∧ ∀ a, canAnswer a s = true) := by
  have hi := inv_reachable c hr
  refine ⟨progress_of_inv c s hi, fun hf => ⟨?_, final_answers c s hi hf⟩⟩
  rw [hi.coll.fut, if_pos hf.2]
  rfl

/-- Bounded time: whatever the outcome, the signal and the schedule, at most 13 actions other
    than accessor calls ever happen; with `C12_resolved` every maximal run reaches `Final`. -/
theorem C12_resolved_bound (c : Cfg) (as : List Act) (s : State)
    (hr : Core.run (step c) init as = some s) : (as.filter (fun a => !a.isAsk)).length ≤ 13 := by
  have := work_le_measure c as init s hr
  have h0 : mu init = 13 := rfl
  omega

/-- the future is resolved only after the child is gone (so a completed `wait` means `join`
    will not block on the process) and never changes its value: it is the table's -/
theorem C12_resolved_value (c : Cfg) (s : State) (hr : Reachable c s) (f : Fut) (hf : s.fut = some f) :
    f = verdict c.outcome s.killed ∧ s.cpc = .exited ∧
      s.exitcode = some (finalCode c.outcome s.killed) := by
  have hi := inv_reachable c hr
  obtain ⟨_, hx, hv⟩ := hi.coll.fut_some hi.child hf
  exact ⟨hv, hx, (hi.child.exited hx).2.1⟩

/-! ## consistent: one table -/

/-- In a final state every accessor's answer is `finalAns outcome kill-history accessor`: all
    seven read the same verdict. -/
theorem C12_consistent (c : Cfg) (s : State) (hr : Reachable c s) (hf : Final s) (a : Acc) :
    answer a s = finalAns c.outcome s.killed a := by
  have hi := inv_reachable c hr
  exact answer_final hi.child hi.coll hf.1 (final_answers c s hi hf a)

/-- value ⇒ `result` returns it, `exception` is `None`, `join` returns -/
theorem C12_table_value (v : Obj) (k : Option (Nat × Phase)) (hk : Undisturbed k) :
    finalAns (.ret v) k .result = .returned v ∧ finalAns (.ret v) k .exception = .returned .none ∧
    finalAns (.ret v) k .join = .returned .none := by
  have h := finalAns_eq ((verdict_undisturbed (.ret v) hk).trans (rfl : ownFut (.ret v) = .ok v))
  exact ⟨h .result, h .exception, h .join⟩

/-- raise ⇒ the same exception object (class, args, traceback text) from `join`, `result`
    (raised) and `exception` (returned); exit status 1 unless killed -/
theorem C12_table_raise (e : Nat) (k : Option (Nat × Phase)) (hk : Undisturbed k) :
    finalAns (.raise e) k .join = .raised (.exc (.child e)) ∧
    finalAns (.raise e) k .result = .raised (.exc (.child e)) ∧
    finalAns (.raise e) k .exception = .returned (.exc (.child e)) ∧
    finalAns (.raise e) none .exitcode = .code (some 1) := by
  have h := finalAns_eq ((verdict_undisturbed (.raise e) hk).trans (rfl : ownFut (.raise e) = .err (.exc (.child e))))
  exact ⟨h .join, h .result, h .exception, rfl⟩

/-- `sys.exit()` / `sys.exit(0)` ⇒ a clean `None` result and exit status 0 -/
theorem C12_table_exit_clean (x : Code) (hx : x.clean = true) (k : Option (Nat × Phase)) (hk : Undisturbed k) :
    finalAns (.exit x) k .result = .returned .none ∧ finalAns (.exit x) k .exception = .returned .none ∧
    finalAns (.exit x) k .join = .returned .none ∧ finalAns (.exit x) none .exitcode = .code (some 0) := by
  have hf : ownFut (.exit x) = .ok .none := (own_eq_threadFut rfl).trans (if_pos hx)
  have h := finalAns_eq ((verdict_undisturbed (.exit x) hk).trans hf)
  refine ⟨h .result, h .exception, h .join, ?_⟩
  cases x with
  | none => rfl
  | int n =>
    rw [eq_of_beq hx]
    rfl
  | str i => cases hx

/-- `sys.exit(k)`, `k ≠ 0`, or `sys.exit(<non-int>)` ⇒ the `SystemExit` from `join`/`result`/
    `exception`; exit status `k mod 256`, resp. 1 -/
theorem C12_table_exit_error (x : Code) (hx : x.clean = false) (k : Option (Nat × Phase)) (hk : Undisturbed k) :
    finalAns (.exit x) k .join = .raised (.exc (.sysExit x)) ∧
    finalAns (.exit x) k .result = .raised (.exc (.sysExit x)) ∧
    finalAns (.exit x) k .exception = .returned (.exc (.sysExit x)) ∧
    (∀ n, x = .int n → finalAns (.exit x) none .exitcode = .code (some (n % 256))) ∧
    (∀ i, x = .str i → finalAns (.exit x) none .exitcode = .code (some 1)) := by
  have hf : ownFut (.exit x) = .err (.exc (.sysExit x)) :=
    (own_eq_threadFut rfl).trans (if_neg (Bool.eq_false_iff.mp hx))
  have h := finalAns_eq ((verdict_undisturbed (.exit x) hk).trans hf)
  refine ⟨h .join, h .result, h .exception, fun n hn => ?_, fun i hi => ?_⟩
  · rw [hn]
    rfl
  · rw [hi]
    rfl

/-- death by an unexpected signal (any signal but 15) before both messages were sent ⇒ an
    `OSError(sig)` from `join`, `result` (raised) and `exception` (returned), exit status `-sig`,
    and `wait` / `as_completed` complete — for every outcome the target would have had -/
theorem C12_table_signal (o : Outcome) (sig : Nat) (ph : Phase) (hph : ph ≠ .after) (hsig : sig ≠ 15) :
    finalAns o (some (sig, ph)) .join = .raised (.exc (.osErr sig)) ∧
    finalAns o (some (sig, ph)) .result = .raised (.exc (.osErr sig)) ∧
    finalAns o (some (sig, ph)) .exception = .returned (.exc (.osErr sig)) ∧
    finalAns o (some (sig, ph)) .exitcode = .code (some (-(sig : Int))) ∧
    finalAns o (some (sig, ph)) .done = .flag true ∧
    finalAns o (some (sig, ph)) .wait = .completed ∧
    finalAns o (some (sig, ph)) .asCompleted = .completed := by
  have h := finalAns_eq ((verdict_killed o sig hph).trans (if_neg (by omega)))
  exact ⟨h .join, h .result, h .exception, h .exitcode, h .done, h .wait, h .asCompleted⟩

/-- signal 15 (`terminate()`) before both messages were sent ⇒ no error: `join` returns,
    `exception` is `None`, `result` is what had been sent (`None` unless the kill fell between the
    two messages), exit status -15 -/
theorem C12_table_terminate (o : Outcome) (ph : Phase) (hph : ph ≠ .after) :
    finalAns o (some (15, ph)) .join = .returned .none ∧
    finalAns o (some (15, ph)) .exception = .returned .none ∧
    finalAns o (some (15, ph)) .result = .returned (if ph = .between then firstMsg o else .none) ∧
    finalAns o (some (15, ph)) .exitcode = .code (some (-15)) := by
  have h := finalAns_eq ((verdict_killed o 15 hph).trans (if_pos rfl))
  exact ⟨h .join, h .exception, h .result, h .exitcode⟩

/-- an outcome that cannot be pickled (`retU`: the returned value, `raiseU`: the raised exception):
    the child ends by itself with status 1 before both messages are sent; every accessor returns
    and all report the same error — `OSError(-1)` in the repaired code (the property prescribes an
    error, not which one): `join`/`result` raise it, `exception` returns it, `done`, exit status 1,
    `wait`/`as_completed` complete.  (That they do return is `C12_resolved` / `_bound`, which
    cover these outcomes like all others.) -/
theorem C12_table_unpicklable (o : Outcome) (ho : sentTotal o < 2) :
    finalAns o none .join = .raised (.exc (.osErr (-1))) ∧
    finalAns o none .result = .raised (.exc (.osErr (-1))) ∧
    finalAns o none .exception = .returned (.exc (.osErr (-1))) ∧
    finalAns o none .exitcode = .code (some 1) ∧
    finalAns o none .done = .flag true ∧
    finalAns o none .wait = .completed ∧
    finalAns o none .asCompleted = .completed := by
  obtain ⟨h1, h2⟩ := own_short ho
  have h := finalAns_eq (k := none) h1
  exact ⟨h .join, h .result, h .exception, (h .exitcode).trans (congrArg (fun x => Ans.code (some x)) h2),
    h .done, h .wait, h .asCompleted⟩

/-- … and killed before it got that far it is reported like every other outcome (`C12_table_signal`,
    `C12_table_terminate` hold for every `o`); it never reaches the state "both messages sent" -/
theorem C12_unpicklable_never_sends_both (c : Cfg) (s : State) (hr : Reachable c s)
    (ho : sentTotal c.outcome < 2) : s.sent < 2 ∧ s.cpc ≠ .closing := by
  have hc := (inv_reachable c hr).child
  have hb := hc.bound
  refine ⟨by omega, fun h => ?_⟩
  have hs := (hc.running (by rw [h]; decide)).2.2.2
  rw [h] at hs
  have : s.sent = 2 := hs
  omega

/-! ## order-free -/

/-- Every answer any accessor ever gave — whichever was called first, at whatever moment, however
    often — is the table's entry for (outcome, kill history), or, for the two non-blocking
    accessors asked while the worker was still running, "not done yet". -/
theorem C12_order_free (c : Cfg) (s : State) (hr : Reachable c s) (a : Acc) (r : Ans)
    (hm : (a, r) ∈ s.answers) :
    r = finalAns c.outcome s.killed a ∨ pendingAns a = some r := by
  rcases (inv_reachable c hr).answered a r hm with h | h
  · exact Or.inr h
  · exact Or.inl h.2

/-- two runs of the same outcome with the same kill history — any schedules, any accessor
    orders — give the same answer to every blocking accessor -/
theorem C12_order_free_runs (c : Cfg) (s1 s2 : State) (h1 : Reachable c s1) (h2 : Reachable c s2)
    (hk : s1.killed = s2.killed) (a : Acc) (r1 r2 : Ans) (hb : pendingAns a = none)
    (m1 : (a, r1) ∈ s1.answers) (m2 : (a, r2) ∈ s2.answers) : r1 = r2 := by
  rcases C12_order_free c s1 h1 a r1 m1 with e1 | e1
  · rcases C12_order_free c s2 h2 a r2 m2 with e2 | e2
    · rw [e1, e2, hk]
    · exact nomatch hb.symm.trans e2
  · exact nomatch hb.symm.trans e1

/-! ## thread variant -/

/-- a `Thread` resolves its future before it ends; at most 2 non-accessor actions; in the final
    state every accessor returns -/
theorem C12_thread_resolved (c : Cfg) (s : Thr.State) (hr : Thr.Reachable c s) :
    (¬ Thr.Final s → ∃ a, Thr.isAsk a = false ∧ (Thr.step c s a).isSome = true) ∧
    (Thr.Final s → s.fut = some (Thr.threadFut c.outcome) ∧ ∀ a, Thr.canAnswer a s = true) := by
  have hi := Thr.inv_reachable c hr
  constructor
  · intro hnf
    cases ht : s.tpc with
    | run => exact ⟨.tSet, rfl, enabled_of_guard ht⟩
    | set => exact ⟨.tEnd, rfl, enabled_of_guard ht⟩
    | dead => exact absurd ht hnf
  · intro hf
    have hd : s.tpc = .dead := hf
    have h2 := hi.fut
    rw [hd] at h2
    refine ⟨h2, fun a => ?_⟩
    cases a <;> simp [Thr.canAnswer, h2, hd]

theorem C12_thread_resolved_bound (c : Cfg) (as : List Thr.Act) (s : Thr.State)
    (hr : Core.run (Thr.step c) Thr.init as = some s) :
    (as.filter (fun a => !Thr.isAsk a)).length ≤ 2 := by
  have := Thr.work_le_measure c as Thr.init s hr
  have h0 : Thr.trank Thr.init.tpc = 2 := rfl
  omega

/-- every answer a `Thread` accessor ever gave is the table's (or "not done yet") -/
theorem C12_thread_consistent (c : Cfg) (s : Thr.State) (hr : Thr.Reachable c s) (a : Acc) (r : Ans)
    (hm : (a, r) ∈ s.answers) : r = Thr.finalAns c.outcome a ∨ pendingAns a = some r := by
  exact ((Thr.inv_reachable c hr).answered a r hm).symm

/-- `Thread` and an undisturbed `Process` report the same verdict for the same outcome that can
    cross the pipe (an unpicklable outcome is an ordinary one for a `Thread`, an error for a `Process`) -/
theorem C12_thread_same_table (o : Outcome) (hp : sentTotal o = 2) : Thr.threadFut o = verdict o none := by
  exact (own_eq_threadFut hp).symm

/-! ## non-vacuity -/

/-- SIGKILL while the target runs, `wait` called first: final, future = `OSError(9)`, `wait`
    completed, `join` raised it -/
example :
    let c : Cfg := { outcome := .ret (.val 5) }
    ∃ s, Reachable c s ∧ Final s ∧ s.killed = some (9, .during) ∧
      s.fut = some (.err (.exc (.osErr 9))) ∧
      s.answers = [(.done, .flag false), (.wait, .completed), (.join, .raised (.exc (.osErr 9)))] := by
  refine ⟨_, ⟨[.cBoot, .ask .done, .kill 9, .kEof, .kEofCode, .kSentinel, .kPutEnd, .kJoinLog, .kResolve,
              .ask .wait, .ask .join], rfl⟩, ?_⟩
  decide

/-- an exception, killed between the two messages by SIGTERM: reported as a clean `None` -/
example :
    let c : Cfg := { outcome := .raise 3 }
    ∃ s, Reachable c s ∧ Final s ∧ s.killed = some (15, .between) ∧ s.fut = some (.ok .none) := by
  refine ⟨_, ⟨[.cBoot, .cTargetEnd, .cSend1, .kRecv, .kill 15, .kEof, .kEofCode, .kSentinel, .kPutEnd,
              .logStop, .kJoinLog, .kResolve], rfl⟩, ?_⟩
  decide

/-- the returned value cannot be pickled: the child fails in the first `send`, ends with status 1;
    `wait` completes, `exception()` returns `OSError(-1)` -/
example :
    let c : Cfg := { outcome := .retU 7 }
    ∃ s, Reachable c s ∧ Final s ∧ s.killed = none ∧ s.exitcode = some 1 ∧ s.sent = 0 ∧
      s.answers = [(.wait, .completed), (.exception, .returned (.exc (.osErr (-1))))] := by
  refine ⟨_, ⟨[.cBoot, .cTargetEnd, .cSendFail, .kEof, .kEofCode, .kSentinel, .kPutEnd, .kJoinLog, .kResolve,
              .ask .wait, .ask .exception], rfl⟩, ?_⟩
  decide

/-- the raised exception cannot be pickled: first message sent, the second `send` fails -/
example :
    let c : Cfg := { outcome := .raiseU 3 }
    ∃ s, Reachable c s ∧ Final s ∧ s.sent = 1 ∧ s.fut = some (.err (.exc (.osErr (-1)))) := by
  refine ⟨_, ⟨[.cBoot, .cTargetEnd, .cSend1, .kRecv, .cSendFail, .kEof, .kEofCode, .kSentinel, .kPutEnd,
              .kJoinLog, .kResolve], rfl⟩, ?_⟩
  decide

/-- a longest run: 12 non-accessor actions (the bound 13 of `C12_resolved_bound` is within one) -/
example :
    let c : Cfg := { outcome := .exit (.int 3) }
    ∃ as s, Core.run (step c) init as = some s ∧ (as.filter (fun a => !a.isAsk)).length = 12 ∧
      Final s ∧ s.fut = some (.err (.exc (.sysExit (.int 3)))) ∧ s.exitcode = some 3 := by
  refine ⟨[.cBoot, .cTargetEnd, .cSend1, .cSend2, .cExit, .kRecv, .kRecv, .kSentinel, .kPutEnd, .logStop,
           .kJoinLog, .kResolve], _, rfl, ?_⟩
  decide

/-- thread: `sys.exit("bye")` surfaces as the `SystemExit` -/
example :
    let c : Cfg := { outcome := .exit (.str 4) }
    ∃ s, Thr.Reachable c s ∧ Thr.Final s ∧
      s.answers = [(.wait, .completed), (.result, .raised (.exc (.sysExit (.str 4))))] := by
  refine ⟨_, ⟨[.tSet, .ask .wait, .tEnd, .ask .result], rfl⟩, ?_⟩
  decide

end ProcOutcome
