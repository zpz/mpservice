import MpsVerif.Proofs.IterQueueInv
import MpsVerif.Proofs.IterQueueTime
import MpsVerif.Proofs.IterQueueLive
/-!
# C17 — IterableQueue delivers every item once and every consumer finishes

Model: `Model/IterQueue.lean` (the repaired code: `_lids_lock` around "move one token and read
`used.full()`").  `m ≥ 1` suppliers, `n ≥ 1` consumers, any queue bound `cap`, any wait interval
`w`; a schedule is an action list, so every theorem below holds for **every** interleaving, any
number of rounds (each `rGet` that succeeds starts a new round) and any moment of the stop request
(`setStop` is an action).  `putLog` / `gotLog` are the values put / received in the current round
(with the supplier / consumer that did it), `hist` the logs of the finished rounds.
-/
namespace IterQueue

/-- **Exactly once.**  At every moment of every execution: what the consumers have received in
    this round, together with what is still in the queue, is exactly (as a multiset) what the
    suppliers have put in this round — nothing else is ever returned, nothing is lost or duplicated,
    no value of another round is mixed in.  When every consumer's iteration has ended, the received
    multiset equals the put multiset and every supplier has called `put_end`; the same holds for
    every finished round. -/
theorem C17_exactly_once (c : Cfg) (hm : 1 ≤ c.m) (hn : 1 ≤ c.n) (s : State) (hr : Reachable c s) :
    (vals s.putLog).Perm (vals s.gotLog ++ vals (itemsOf s.queue)) ∧
    ((∀ a ∈ s.cons, a.pc = .done) →
        (vals s.putLog).Perm (vals s.gotLog) ∧ ∀ a ∈ s.sups, a.pc = .ended) ∧
    (∀ pg ∈ s.hist, (vals pg.1).Perm (vals pg.2)) := by
  have hi := all_reachable hm hn hr
  refine ⟨hi.perm, ?_, hi.hist⟩
  intro hall
  obtain ⟨hq, _, _, _, _, _, hs⟩ := hi.round_end hall (used_full_of_all_done hn hi hall)
  have := hi.perm
  rw [hq] at this
  exact ⟨by simpa [vals, itemsOf] using this, hs⟩

/-- **One marker per round.**  When every consumer's iteration has ended the data queue holds
    exactly the one extra end marker (F14: the pinned code can leave two), all tokens are in `used`
    and the lock is free. -/
theorem C17_one_marker_left (c : Cfg) (hm : 1 ≤ c.m) (hn : 1 ≤ c.n) (s : State) (hr : Reachable c s)
    (hall : ∀ a ∈ s.cons, a.pc = .done) :
    s.queue = [.mark] ∧ s.spare = 0 ∧ s.applied = 0 ∧ s.used = c.m ∧ s.lock = false := by
  have hi := all_reachable hm hn hr
  obtain ⟨h1, h2, h3, h4, h5, _⟩ := hi.round_end hall (used_full_of_all_done hn hi hall)
  exact ⟨h1, h2, h3, h4, h5⟩

/-- **Renew is clean.**  `renew` never raises (`rpc` is never `failed`: the `used.full()` test
    holds and the entry it takes off the queue is a marker), and the state after it is a fresh
    round: empty queue — exactly zero markers or values carried over —, all `m` tokens back in
    `spare`, lock free; the finished round's logs go to `hist`. -/
theorem C17_renew_clean (c : Cfg) (hm : 1 ≤ c.m) (hn : 1 ≤ c.n) (s s' : State) (hr : Reachable c s) :
    s.rpc ≠ .failed ∧
    (step c s .rStart = some s' → s'.rpc = .get) ∧
    (step c s .rGet = some s' →
      Fresh c s' ∧ s'.round = s.round + 1 ∧ s'.hist = s.hist ++ [(s.putLog, s.gotLog)]) := by
  have hi := all_reachable hm hn hr
  refine ⟨hi.rf, ?_, ?_⟩
  · intro hs
    have hi' := inv_step hm hn hi (step_sound c s s' _ hs)
    cases step_sound c s s' _ hs with
    | rStartOk _ _ _ => rfl
    | rStartFail _ _ _ => exact absurd rfl hi'.rf
  · intro hs
    have hi' := inv_step hm hn hi (step_sound c s s' _ hs)
    cases step_sound c s s' _ hs with
    | rGetMark rest hrp hq hu => exact ⟨hi.renew_fresh hrp hq, rfl, rfl⟩
    | rGetItem i x rest hrp hq => exact absurd rfl hi'.rf

/-- `renew` is not blocked: once every consumer's iteration has ended, `renew` passes its test and
    finds its marker at once. -/
theorem C17_renew_enabled (c : Cfg) (hm : 1 ≤ c.m) (hn : 1 ≤ c.n) (s : State) (hr : Reachable c s)
    (hall : ∀ a ∈ s.cons, a.pc = .done) (hoff : s.rpc = .off) :
    ∃ s1 s2, step c s .rStart = some s1 ∧ step c s1 .rGet = some s2 := by
  have hi := all_reachable hm hn hr
  obtain ⟨hq, _, _, hu, _, _⟩ := hi.round_end hall (used_full_of_all_done hn hi hall)
  have hall' : s.cons.all (fun a => a.pc == .done) = true := by
    rw [List.all_eq_true]; intro a ha; simp [hall a ha]
  have h1 : step c s .rStart = some { s with rpc := .get, rt0 := s.now, rtw := s.now } := by
    simp [step, hoff, hall', usedFull, hu]
  cases h2 : step c { s with rpc := .get, rt0 := s.now, rtw := s.now } .rGet with
  | some s2 => exact ⟨_, _, h1, h2⟩
  | none => simp [step, hq, hu] at h2

/-- **The helper queues never block and `put_end` never fails.**  A supplier that has not yet called
    `put_end` in this round finds a token in `spare` (so the "called more than `num_suppliers`
    times" error cannot occur under the protocol), `applied.put` / `used.put` find room,
    `applied.get` finds a token, and a consumer's `put(None)` finds the data queue empty (it never
    blocks, whatever the bound `cap ≥ 1`). -/
theorem C17_token_ops_enabled (c : Cfg) (hm : 1 ≤ c.m) (hn : 1 ≤ c.n) (s : State) (hr : Reachable c s) :
    (∀ (i : Nat) (a : Sup), s.sups[i]? = some a → a.pc = .idle → (step c s (.sEndBeg i)).isSome = true) ∧
    (∀ (i : Nat) (a : Sup), s.sups[i]? = some a → a.pc = .pe1 → (step c s (.sApply i)).isSome = true) ∧
    (∀ (j : Nat) (a : Con), s.cons[j]? = some a → a.pc = .take → (step c s (.cTake j)).isSome = true) ∧
    (∀ (j : Nat) (a : Con), s.cons[j]? = some a → a.pc = .give → (step c s (.cGive j)).isSome = true) ∧
    (∀ (j : Nat) (a : Con), s.cons[j]? = some a → (a.pc = .reput ∨ a.pc = .extra) → s.queue = []) := by
  have hi := all_reachable hm hn hr
  refine ⟨?_, ?_, ?_, ?_, fun j a h hp => put_none_room hi h hp⟩
  · intro i a h hpc
    have : 0 < s.spare := (hi.numS h hpc).of_idle.1
    simp [step, h, hpc, this]
  · intro i a h hpc
    have : s.applied < c.m := (hi.numS h hpc).applied_lt
    simp [step, h, hpc, this]
  · intro j a h hpc
    have : 0 < s.applied := (hi.numC h hpc).applied_pos
    simp [step, h, hpc, this]
  · intro j a h hpc
    have : s.used < c.m := (hi.numC h hpc).used_lt
    simp [step, h, hpc, this]

/-- **A late consumer leaves a finished round untouched.**  A consumer that starts iterating when the
    token set is already complete (the round is over, `renew` not yet called) ends at once: its only
    step is the `used.full()` test, after which it is `done`; the data queue — in particular the one
    surplus marker at its front —, the token queues and the lock are exactly as before; and no other
    action moves that consumer (`renew` cannot even have started before it has ended). -/
theorem C17_late_consumer (c : Cfg) (hm : 1 ≤ c.m) (hn : 1 ≤ c.n) (s : State) (hr : Reachable c s)
    (j : Nat) (a : Con) (h : s.cons[j]? = some a) (hpc : a.pc = .chk1) (hu : c.m ≤ s.used) :
    step c s (.cChk1 j) = some { s with cons := s.cons.set j { a with pc := .done } } ∧
    (∀ act s', act ≠ .cChk1 j → step c s act = some s' → s'.cons[j]? = some a) := by
  refine ⟨by simp [step, h, hpc, usedFull, hu], fun act s' hne hs => ?_⟩
  -- `renew` has started only if every consumer is done; consumer `j` is still at its start pc
  have hr : s.rpc ≠ .get := (all_reachable hm hn hr).rn_vac h hpc nofun
  exact step_keeps_con (step_sound c s s' act hs) h (by rw [hpc]; simpa [CPc.acts] using hne) hr

/-- **Stop is answered within one wait interval.**  Let a stop have been requested at clock `ts`.
    (1) Whoever is still inside a blocking `get`/`put` (consumer, supplier, or `renew`) has been
    there for at most one wait interval `w` counted from the later of the stop request and the
    start `t0` of that operation.  (2) When such an actor's bounded wait has expired and the
    operation still cannot succeed, raising `StopRequested` is its only move (`cStop`/`sStop` is
    enabled, a further retry is not) and the clock does not advance before it has moved
    (zero scheduling latency, see the model header).  (3) `StopRequested` is raised only after a
    stop request. -/
theorem C17_stop_responsive (c : Cfg) (s : State) (hr : Reachable c s) :
    (∀ ts, s.stop = some ts →
      (∀ (j : Nat) (a : Con), s.cons[j]? = some a → a.pc.waiting = true →
          s.now ≤ a.t0 + c.w ∨ s.now ≤ ts + c.w) ∧
      (∀ (i : Nat) (a : Sup), s.sups[i]? = some a → a.pc.waiting = true →
          s.now ≤ a.t0 + c.w ∨ s.now ≤ ts + c.w) ∧
      (s.rpc = .get → s.now ≤ s.rt0 + c.w ∨ s.now ≤ ts + c.w) ∧
      (∀ (j : Nat) (a : Con), s.cons[j]? = some a → a.pc.waiting = true → cBlocked c s a.pc = true →
          a.tw + c.w ≤ s.now →
          step c s (.cStop j) = some { s with cons := s.cons.set j { a with pc := .stopped } } ∧
          step c s (.cRetry j) = none ∧ step c s .tick = none) ∧
      (∀ (i : Nat) (a : Sup), s.sups[i]? = some a → a.pc.waiting = true → room c s = false →
          a.tw + c.w ≤ s.now →
          (step c s (.sStop i)).isSome = true ∧ step c s (.sRetry i) = none ∧ step c s .tick = none)) ∧
    (s.stop = none →
      (∀ a ∈ s.cons, a.pc ≠ .stopped) ∧ (∀ a ∈ s.sups, a.pc ≠ .stoppedP ∧ a.pc ≠ .stoppedE) ∧
      s.rpc ≠ .stopped) := by
  have hi := tinv_reachable hr
  refine ⟨?_, ?_⟩
  · intro ts hstop
    have bound : ∀ t0 tw, WaitOk c.w s.now s.stop t0 tw → s.now ≤ t0 + c.w ∨ s.now ≤ ts + c.w := by
      intro t0 tw ho
      rcases ho.h4 with h | h
      · left; have := ho.h3; omega
      · right; have := h ts hstop; have := ho.h3; omega
    refine ⟨fun j a h hw => bound _ _ ((hi.con a (List.mem_of_getElem? h)).wait hw),
            fun i a h hw => bound _ _ ((hi.sup a (List.mem_of_getElem? h)).wait hw),
            fun h => bound _ _ (hi.ren.wait (beq_iff_eq.mpr h)), ?_, ?_⟩
    · intro j a h hw hb hdue
      exact ⟨by simp [step, h, hw, hb, hdue, hstop], by simp [step, h, hstop],
        by simp [step, noneDue_of_con (List.mem_of_getElem? h) hw hdue]⟩
    · intro i a h hw hroom hdue
      exact ⟨by simp [step, h, hw, hroom, hdue, hstop], by simp [step, h, hstop],
        by simp [step, noneDue_of_sup (List.mem_of_getElem? h) hw hdue]⟩
  · intro hnone
    exact ⟨fun a ha hp => (hi.con a ha).stopReq (by rw [hp]; rfl) hnone,
      fun a ha => ⟨fun hp => (hi.sup a ha).stopReq (by rw [hp]; rfl) hnone,
        fun hp => (hi.sup a ha).stopReq (by rw [hp]; rfl) hnone⟩,
      fun hp => hi.ren.stopReq (by rw [hp]; rfl) hnone⟩

/-- non-vacuity of `C17_stop_responsive`: a consumer blocked on an empty queue since clock 0, stop
    requested at clock 2 (after two expired waits and retries); at clock 3 it raises `StopRequested`,
    i.e. exactly one wait interval after the request -/
example :
    let c : Cfg := { m := 1, n := 1, cap := 0, w := 1 }
    ∃ s, Reachable c s ∧ s.stop = some 2 ∧ s.now = 3 ∧ (s.cons.map (·.pc)) = [.stopped] := by
  refine ⟨_, ⟨[.cChk1 0, .tick, .cRetry 0, .tick, .cRetry 0, .setStop, .tick, .cStop 0], rfl⟩, ?_⟩
  decide

/-- **Every consumer finishes.**  Let all suppliers have ended (`put_end` returned).  Then
    (1) *progress*: as long as no stop is requested and some consumer's iteration has not ended, some
    consumer can make a real move (nobody is blocked for good: not on the data queue, not on the
    lock, not on a token queue, not in `put(None)`);
    (2) *bounded work*: in any continuation without supplier and `renew` actions the consumers make at
    most `mu s` real moves (`mu` = positions in `__next__` + 2·values queued + 20·tokens applied);
    (3) no supplier action is enabled, (4) `renew` can only start when every consumer has ended, and
    (5) all other actions leave the suppliers as they are — so (1)–(2) apply to the whole rest of the
    round.  Hence every maximal execution in which the stutter steps (`tick`, retries after an
    expired wait) do not starve the consumers ends with every consumer `done`. -/
theorem C17_all_finish (c : Cfg) (hm : 1 ≤ c.m) (hn : 1 ≤ c.n) (s : State) (hr : Reachable c s)
    (hsup : ∀ a ∈ s.sups, a.pc = .ended) :
    (s.stop = none → (∃ a ∈ s.cons, a.pc ≠ .done) →
        ∃ act, isConsMove act = true ∧ (step c s act).isSome = true) ∧
    (∀ as s', Core.run (step c) s as = some s' →
        (∀ a ∈ as, isSupAct a = false ∧ isRenewAct a = false) → as.countP isConsMove + mu s' ≤ mu s) ∧
    (∀ act, isSupAct act = true → step c s act = none) ∧
    (∀ s', step c s .rStart = some s' → ∀ a ∈ s.cons, a.pc = .done) ∧
    (∀ act s', step c s act = some s' → isSupAct act = false → isRenewAct act = false → s'.sups = s.sups) := by
  have hi := all_reachable hm hn hr
  have ht := tinv_reachable hr
  refine ⟨fun hstop hnd => cons_progress hi ht hstop hsup hnd,
          fun _ _ hrun hall => moves_le_mu hrun hall,
          fun _ hact => sup_disabled c hsup hact, ?_,
          fun act s' hs h1 h2 => sups_unchanged (step_sound c s s' act hs) h1 h2⟩
  intro s' hs
  cases step_sound c s s' _ hs with
  | rStartOk _ hall _ => exact hall
  | rStartFail _ hall _ => exact hall

/-- **A call with its own timeout answers the stop as well.**  One blocking `ResponsiveQueue` call
    (`put/get(timeout = T)`, `T = none`: no timeout) that starts at clock 0 and cannot succeed before
    `r`, with a stop requested at `s` (any `w`, `T`, `s`, `r`, either resolution of a request made at
    the instant of a poll): it ends with `StopRequested` only at a clock in `[s, s + w]`, with
    `Full/Empty` only exactly at its own timeout, successfully only at `r`; and whenever a stop was
    requested at `s0` the call is over — one way or the other — by `s0 + w`, i.e. within one wait
    interval, however long its own timeout is (it does end: `fuel` waits suffice once
    `s0 + w < fuel · w`). -/
theorem C17_timed_call_responsive (w : Nat) (T s : Option Nat) (tie : Bool) (r : Option Nat) (fuel : Nat) :
    (∀ u, timedCall w T s tie r fuel 0 = .stop u → ∃ s0, s = some s0 ∧ s0 ≤ u ∧ u ≤ s0 + w) ∧
    (∀ u, timedCall w T s tie r fuel 0 = .expire u → T = some u) ∧
    (∀ u, timedCall w T s tie r fuel 0 = .ok u → r = some u) ∧
    (∀ s0, s = some s0 → timedCall w T s tie r fuel 0 ≠ .running →
        (timedCall w T s tie r fuel 0).time ≤ s0 + w) ∧
    (∀ s0, s = some s0 → s0 + w < fuel * w → timedCall w T s tie r fuel 0 ≠ .running) := by
  obtain ⟨h1, h2, h3, h4⟩ := timedCall_spec w T s tie r fuel 0 (fun _ _ => Nat.zero_le _) (fun _ _ => Nat.zero_le _)
  refine ⟨h1, h2, h3, h4, ?_⟩
  intro s0 hs0 hf
  rw [hs0]
  exact timedCall_ends w T s0 tie r fuel 0 (Nat.zero_le _) (by omega)

/-- non-vacuity: interval 4, own timeout 80 (20 s), stop requested at 2: `StopRequested` at 4, not
    `Full` at 80; with own timeout 6 and the stop at 5 the timeout wins at 6; a request made exactly
    at a poll and not seen by it is answered one interval later -/
example : timedCall 4 (some 80) (some 2) false none 30 0 = .stop 4 ∧
    timedCall 4 (some 6) (some 5) false none 30 0 = .expire 6 ∧
    timedCall 4 none (some 4) false none 30 0 = .stop 8 ∧
    timedCall 4 none (some 4) true (some 7) 30 0 = .stop 4 := by decide

/-- **Every consumer finishes — bound.**  Once all suppliers have ended, in *any* continuation
    without a `renew` action (any interleaving with stop requests, clock ticks, retries) the
    consumers make at most `mu s` real moves, and the suppliers stay ended (so the progress clause
    of `C17_all_finish` keeps applying). -/
theorem C17_all_finish_bound (c : Cfg) (s s' : State) (as : List Act)
    (hsup : ∀ a ∈ s.sups, a.pc = .ended) (hrun : Core.run (step c) s as = some s')
    (hnr : ∀ a ∈ as, isRenewAct a = false) :
    as.countP isConsMove + mu s' ≤ mu s ∧ (∀ a ∈ s'.sups, a.pc = .ended) :=
  moves_le_mu_ended hrun hsup hnr

/-- non-vacuity of `C17_all_finish`: one supplier has put a value and ended, two consumers are inside
    `get`; 54 units of work are left -/
example :
    let c : Cfg := { m := 1, n := 2, cap := 0, w := 1 }
    ∃ s, Reachable c s ∧ (∀ a ∈ s.sups, a.pc = .ended) ∧ s.cons.map (·.pc) = [.get, .get] ∧ mu s = 54 := by
  refine ⟨_, ⟨[.sPutBeg 0 5, .sPut 0, .sEndBeg 0, .sApply 0, .sMark 0, .cChk1 0, .cChk1 1], rfl⟩, ?_⟩
  decide

/-- non-vacuity: two suppliers, two consumers; both consumers meet at the token hand-over (the
    F14 window), the round ends with exactly one marker, `renew`, and a second round delivers its
    own value -/
example :
    let c : Cfg := { m := 2, n := 2, cap := 0, w := 1 }
    ∃ s, Reachable c s ∧ s.round = 1 ∧ (∀ a ∈ s.cons, a.pc = .done) ∧ s.queue = [.mark]
      ∧ s.gotLog = [(0, 9)] ∧ s.hist = [([(0, 5), (1, 6)], [(0, 5), (1, 6)])] := by
  refine ⟨_, ⟨[.sPutBeg 0 5, .sPut 0, .sPutBeg 1 6, .sPut 1, .sEndBeg 0, .sApply 0, .sMark 0,
               .sEndBeg 1, .sApply 1, .sMark 1,
               .cChk1 0, .cGet 0, .cChk1 1, .cGet 1, .cChk1 0, .cGet 0, .cChk1 1, .cGet 1,
               .cChk2 0, .cChk2 1, .cLock 0, .cTake 0, .cGive 0, .cTest 0, .cUnlock 0,
               .cLock 1, .cTake 1, .cGive 1, .cTest 1, .cUnlock 1, .cExtra 1,
               .cChk1 0, .rStart, .rGet,
               .sPutBeg 0 9, .sPut 0, .sEndBeg 0, .sApply 0, .sMark 0, .sEndBeg 1, .sApply 1, .sMark 1,
               .cChk1 0, .cGet 0, .cChk1 0, .cGet 0, .cChk2 0, .cLock 0, .cTake 0, .cGive 0, .cTest 0,
               .cUnlock 0, .cChk1 0, .cGet 0, .cChk2 0, .cLock 0, .cTake 0, .cGive 0, .cTest 0,
               .cUnlock 0, .cExtra 0, .cChk1 1], rfl⟩, ?_⟩
  decide

end IterQueue
