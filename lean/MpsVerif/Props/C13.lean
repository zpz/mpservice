import MpsVerif.Proofs.RefcountQuiesce
/-!
# C13 — hosted objects live exactly as long as some proxy refers to them

Model: `Model/Refcount.lean` (the manager server's `id_to_refcount` / `id_to_obj` tables, every
proxy object and every pickle in existence as an entry `(holder, ident)` of `refs`; client
processes `p : Nat`, any number of them).  `Reachable s` = `s` is reached from the empty server by
**any** list of actions: create / managed() return, pickle, un-pickle (two atomic halves), drop
(finalizer), store in / take out of a hosted container, call, process exit — issued by any client,
in any interleaving, with any identifier the allocator hands out.  No bound on the number of
clients, objects, references or steps.

A "reference to `i`" is an entry `(h, i) ∈ s.refs` with `h` one of: `client p` (live proxy in
process `p`), `transit` / `rebuild` (a pickle on its way / being un-pickled), `item c` (a proxy
stored in hosted container `c`), `temp` (a proxy in the server referenced only by a serving
thread's locals — the server drops these on its own).
-/
namespace Refcount

/-- the server's count of `i` is exactly: live proxies in clients + pickles in transit +
    proxies nested in hosted containers + server temporaries -/
theorem C13_count_exact (s : State) (hr : Reachable s) (i : Nat) :
    s.rc i = live s i + inTransit s i + nested s i + temps s i := by
  rw [(inv_reachable hr).count i]
  exact cnt_partition s.refs i

/-- as long as any reference to `i` exists — anywhere — `i` is hosted with a positive count, a
    memory block's shared memory is still linked, and a container holding a nested proxy is
    itself hosted -/
theorem C13_alive (s : State) (hr : Reachable s) (h : Holder) (i : Nat) (hm : (h, i) ∈ s.refs) :
    s.hosted i = true ∧ 0 < s.rc i ∧ (s.kind i = .mem → s.shm i = true) ∧
    (∀ c, h = .item c → s.hosted c = true) := by
  have hinv := inv_reachable hr
  have hh := hosted_of_mem hinv hm
  refine ⟨hh, pos_of_mem hinv hm, fun hk => (hinv.shm i).mpr ⟨hh, hk⟩, ?_⟩
  intro c hc
  subst hc
  exact (hinv.item c i hm).1

/-- … and usable: the holder's operations on it do not fail — a running client can call through
    its proxy and pickle it, a pickle can be un-pickled by any running client or by the server, a
    nested proxy can be read back (pickled by the server), every finalizer can run -/
theorem C13_usable (s : State) (hr : Reachable s) :
    (∀ p i, (Holder.client p, i) ∈ s.refs → s.stat p = .running →
        (step s (.call p i)).isSome ∧ (step s (.pickle (.client p) i)).isSome) ∧
    (∀ i dst, (Holder.transit, i) ∈ s.refs → dstOk s dst = true → (step s (.unpickle dst i)).isSome) ∧
    (∀ c i, (Holder.item c, i) ∈ s.refs → (step s (.pickle (.item c) i)).isSome) ∧
    (∀ h i, (h, i) ∈ s.refs → (h = .temp ∨ h = .rebuild ∨ (h.isClient = true ∧ canAct s h = true)) →
        (step s (.drop h i)).isSome) := by
  have hinv := inv_reachable hr
  refine ⟨fun p i hm hp => ?_, fun i dst hm hd => ?_, fun c i hm => ?_, fun h i hm hk => ?_⟩
  · have hh := hosted_of_mem hinv hm
    exact ⟨Option.isSome_ite.mpr ⟨hm, hp, hh⟩, Option.isSome_ite.mpr
      ⟨hm, Holder.noConfusion, Holder.noConfusion, canAct_client.mpr (by simp [hp]), hh⟩⟩
  · exact Option.isSome_ite.mpr ⟨hm, hosted_of_mem hinv hm, hd⟩
  · exact Option.isSome_ite.mpr
      ⟨hm, Holder.noConfusion, Holder.noConfusion, rfl, hosted_of_mem hinv hm⟩
  · exact Option.isSome_ite.mpr ⟨hm, pos_of_mem hinv hm, hk⟩

/-- once no reference to `i` is left anywhere, `i` is not hosted any more, its count is gone and
    its shared memory block is unlinked -/
theorem C13_released (s : State) (hr : Reachable s) (i : Nat) (hn : ∀ h, (h, i) ∉ s.refs) :
    s.hosted i = false ∧ s.rc i = 0 ∧ s.shm i = false := by
  have hinv := inv_reachable hr
  have h0 : s.rc i = 0 := by
    rw [hinv.count i]
    refine List.countP_eq_zero.mpr fun r hrm hri => ?_
    obtain ⟨h, j⟩ := r
    cases beq_iff_eq.mp hri
    exact hn h hrm
  exact ⟨(released_of_rc hinv h0).1, h0, (released_of_rc hinv h0).2⟩

/-- the server temporaries go away **without any further client action**: from every reachable
    state, at most `refs.length` server-internal steps (always enabled) lead to a state without
    temporaries, in which every client's proxies and every pickle are untouched, and in which
    every object that no client proxy, pickle or nested proxy refers to is released -/
theorem C13_released_by_server_alone (s : State) (hr : Reachable s) :
    ∃ as s', (∀ a ∈ as, serverInternal a = true) ∧ as.length ≤ s.refs.length ∧
      Core.run step s as = some s' ∧
      (∀ i, temps s' i = 0) ∧
      (∀ i, live s' i = live s i ∧ inTransit s' i = inTransit s i) ∧
      (∀ i, live s' i = 0 → inTransit s' i = 0 → nested s' i = 0 →
          s'.hosted i = false ∧ s'.rc i = 0 ∧ s'.shm i = false) := by
  obtain ⟨as, h1, h2, h3, h4, h5⟩ := quiesce_spec s.refs.length s (inv_reachable hr) (Nat.le_refl _)
  have hr' : Reachable (quiesce s.refs.length s) := by
    obtain ⟨bs, hbs⟩ := hr
    exact ⟨bs ++ as, by rw [Core.run_append, hbs]; exact h3⟩
  refine ⟨as, _, h1, h2, h3, temps_eq_zero h4, ?_, ?_⟩
  · intro i
    exact ⟨h5 _ stable_isClient i, h5 _ stable_isTransit i⟩
  · intro i hl ht hn
    have hc := C13_count_exact _ hr' i
    rw [hl, ht, hn, temps_eq_zero h4 i] at hc
    exact ⟨(released_of_rc (inv_reachable hr') hc).1, hc, (released_of_rc (inv_reachable hr') hc).2⟩

/-- a process that has exited holds nothing: every proxy it still had when it began to exit has
    given its reference back (the exit cannot complete before) … -/
theorem C13_exit_returns_all (s : State) (hr : Reachable s) (p : Nat) (hp : s.stat p = .exited) :
    ∀ i, (Holder.client p, i) ∉ s.refs :=
  fun i => (inv_reachable hr).exited p i hp

/-- … and exiting never blocks: every remaining finalizer can run, after the last one the exit
    completes -/
theorem C13_exit_progress (s : State) (hr : Reachable s) (p : Nat) (hp : s.stat p = .exiting) :
    (∀ i, (Holder.client p, i) ∈ s.refs → (step s (.drop (.client p) i)).isSome) ∧
    ((∀ i, (Holder.client p, i) ∉ s.refs) → (step s (.exitEnd p)).isSome) := by
  constructor
  · intro i hm
    exact (C13_usable s hr).2.2.2 _ i hm (Or.inr (Or.inr ⟨rfl, canAct_client.mpr (by simp [hp])⟩))
  · intro hn
    refine Option.isSome_ite.mpr ⟨hp, fun r hrm hh => ?_⟩
    obtain ⟨h, j⟩ := r
    cases (hh : h = .client p)
    exact hn j hrm

/-! ## whole operations (the atomic-action lists the driver uses for them) -/

/-- creating an object (`manager.<typeid>(…)`, or a hosted method returning `managed(new object)`):
    entry + server-side proxy, reply pickled, temporary dropped, client un-pickles.  Net effect from
    *any* state: exactly one reference, the caller's; count 1; a memory block's shm linked. -/
theorem C13_create_returns_one_reference (s : State) (p i : Nat) (k : Kind)
    (hi : s.hosted i = false) (hp : s.stat p = .running) :
    ∃ s', Core.run step s [.create k i, .pickle .temp i, .drop .temp i, .unpickle (.client p) i, .drop .rebuild i]
        = some s' ∧
      s'.refs = (.client p, i) :: s.refs ∧ s'.rc i = 1 ∧ (∀ j, j ≠ i → s'.rc j = s.rc j) ∧
      s'.hosted i = true ∧ s'.kind i = k ∧ s'.shm i = decide (k = .mem) := by
  exact ⟨_, run_create k hi (by simp [dstOk, hp]),
    rfl, if_pos rfl, fun j hj => if_neg hj, if_pos rfl, if_pos rfl, if_pos rfl⟩

/-- passing a proxy to another process (`Process(args=(proxy,))`, a queue, a pipe): `__reduce__` in
    `p`, `RebuildProxy` in `q` — ordinary, or while the spawned child `q` bootstraps (the same in the
    repaired code).  Net effect: exactly one more reference, held by `q`; count + 1; nothing else. -/
theorem C13_pass_to_process (s : State) (hr : Reachable s) (p q i : Nat)
    (hm : (Holder.client p, i) ∈ s.refs) (hp : s.stat p = .running) (hq : s.stat q = .running) :
    ∃ s', Core.run step s [.pickle (.client p) i, .unpickle (.client q) i, .drop .rebuild i] = some s' ∧
      s'.refs = (.client q, i) :: s.refs ∧ s'.rc i = s.rc i + 1 ∧ (∀ j, j ≠ i → s'.rc j = s.rc j) ∧
      s'.hosted = s.hosted ∧ s'.shm = s.shm ∧ s'.stat = s.stat := by
  have hh := hosted_of_mem (inv_reachable hr) hm
  have hd : dstOk s (.client q) = true := by simp [dstOk, hq]
  refine ⟨_, run_pass hm Holder.noConfusion Holder.noConfusion (canAct_client.mpr (by simp [hp])) hh hd,
    rfl, if_pos rfl, fun j hj => if_neg hj, rfl, rfl, rfl⟩

/-- a child `q` started with the FORK start method inherits `p`'s proxy object through memory; the
    after-fork hook makes the copy a counted reference of its own (increment + finalizer): exactly
    one more reference, held by `q`; count + 1; the parent's proxy untouched -/
theorem C13_fork_inherits (s : State) (hr : Reachable s) (p q i : Nat)
    (hm : (Holder.client p, i) ∈ s.refs) (hp : s.stat p = .running) (hq : s.stat q = .running) :
    ∃ s', step s (.fork p q i) = some s' ∧ s'.refs = (.client q, i) :: s.refs ∧ s'.rc i = s.rc i + 1 ∧
      (∀ j, j ≠ i → s'.rc j = s.rc j) ∧ s'.hosted = s.hosted ∧ s'.shm = s.shm := by
  exact ⟨_, if_pos ⟨hm, hp, hq, hosted_of_mem (inv_reachable hr) hm⟩,
    rfl, if_pos rfl, fun j hj => if_neg hj, rfl, rfl⟩

/-- deleting the proxy that holds the last count destroys the object and unlinks its shared memory
    in that very step -/
theorem C13_delete_last_reference (s : State) (p i : Nat)
    (hm : (Holder.client p, i) ∈ s.refs) (hp : s.stat p ≠ .exited) (h1 : s.rc i = 1) :
    ∃ s', step s (.drop (.client p) i) = some s' ∧ s'.hosted i = false ∧ s'.shm i = false ∧ s'.rc i = 0 := by
  refine ⟨_, step_drop hm (by omega) (Or.inr (Or.inr ⟨rfl, canAct_client.mpr hp⟩)), ?_⟩
  rw [decref_of_le (t := { s with refs := s.refs.erase (.client p, i) }) (Nat.le_of_eq h1)]
  exact ⟨if_pos rfl, if_pos rfl, if_pos rfl⟩

/-! ## non-vacuity

Two clients (0 and 1).  Client 0 creates a list (ident 0) and a memory block (ident 1), stores the
block's proxy in the list, deletes its own block proxy (the block lives on, nested), passes the
list to client 1 (pickle → un-pickle), deletes its list proxy; client 1 exits.  The last
reference to the list goes, the list dies, the nested proxy becomes a server temporary, and the
server alone releases the block. -/

def demo : List Act :=
  [ .create .cont 0, .pickle .temp 0, .drop .temp 0, .unpickle (.client 0) 0, .drop .rebuild 0,
    .create .mem 1, .pickle .temp 1, .drop .temp 1, .unpickle (.client 0) 1, .drop .rebuild 1,
    .pickle (.client 0) 1, .unpickle .temp 1, .drop .rebuild 1, .store 0 1,   -- lst.append(mem)
    .drop (.client 0) 1,
    .pickle (.client 0) 0, .unpickle (.client 1) 0, .drop .rebuild 0,          -- pass to client 1
    .drop (.client 0) 0 ]

/-- after `demo`: list count 1 (client 1), block count 1 (nested), shared memory linked -/
example : ∃ s, Core.run step init demo = some s ∧ s.rc 0 = 1 ∧ s.rc 1 = 1 ∧ s.shm 1 = true ∧
    live s 0 = 1 ∧ live s 1 = 0 ∧ nested s 1 = 1 ∧ s.refs = [(.client 1, 0), (.item 0, 1)] :=
  ⟨_, rfl, by decide⟩

/-- client 1 exits: the list dies, the server finalizes the orphaned nested proxy, the block is
    released — `C13_released` applies to both idents (no reference left) -/
example : ∃ s, Core.run step init (demo ++ [.exitBegin 1, .drop (.client 1) 0, .exitEnd 1, .drop .temp 1]) = some s ∧
    s.refs = [] ∧ s.hosted 0 = false ∧ s.hosted 1 = false ∧ s.shm 1 = false ∧ s.stat 1 = .exited :=
  ⟨_, rfl, by decide⟩

/-- the exit cannot complete while client 1 still holds its proxy -/
example : Core.run step init (demo ++ [.exitBegin 1, .exitEnd 1]) = none := by decide

end Refcount
