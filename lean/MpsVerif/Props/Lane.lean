import MpsVerif.Proofs.LaneLive
import MpsVerif.Proofs.LaneRefine
import MpsVerif.Proofs.FifoStep
import MpsVerif.Proofs.BufferStep
/-!
# `SingleLane` is a FIFO queue with `maxsize` slots (what `Model/Fifo.lean` and `Model/Buffer.lean` assume)

Anchors: C01 "single-reader/single-writer bounded queue keeps FIFO order (`_queues.py:28-71`)", C08 "feeder
blocks on put when the hand-off queue is full (`_queues.py:48-58`)"; C05 uses the same queue.

System: `Model/Lane.lean`, the lane at the granularity of its lock operations, with ONE writer thread
(thread 0, calls `put` only) and ONE reader thread (thread 1, calls `get` only) — `Cfg.single`, the documented
usage.  Every theorem is for every `maxsize` (0 = unbounded), every sequence of calls — each call blocking,
non-blocking or timed, chosen by the environment action `call t mode x` — every moment of expiry of a timed
wait (`timeoutFire`) and every interleaving: `Reachable` quantifies over all action lists.

Assumed (the semantics of `threading.Lock` / `threading.Condition` written into `Lane.step`): the mutex is
mutually exclusive; `wait` atomically queues the waiter and releases the mutex, and re-acquires it before it
returns; `notify` wakes at most one waiter that is in the list at that moment and is not remembered otherwise;
a waiter wakes only when notified or when its timeout expires (no spurious wake-ups: CPython's `Condition`
blocks on a private lock that only `notify` releases).
-/
namespace Lane

/-- one writer thread (thread 0) and one reader thread (thread 1) -/
def Cfg.single (c : Cfg) : Prop := c.nw = 1 ∧ c.nr = 1

instance (c : Cfg) : Decidable c.single := by unfold Cfg.single; exact inferInstance

/-! ## C01: FIFO, nothing lost, duplicated or invented -/

/-- At every reachable state the items taken so far, followed by the deque's contents, are exactly the items
    appended so far, in order. -/
theorem Lane_fifo (c : Cfg) (hc : c.single) (s : State) (hr : Reachable c s) :
    s.gotH ++ s.q = s.putH :=
  ((all_reachable c hc.1 hc.2 hr).good).fifo.symm

/-- The `popleft` of a `get` takes the oldest item that has been put and not yet taken (the item number
    `gotH.length` of the history of puts), and that item becomes the call's result. -/
theorem Lane_get_takes_oldest (c : Cfg) (hc : c.single) (s : State) (hr : Reachable c s) (s' : State)
    (h : step c s (.act 1) = some s') :
    ∃ x, s.putH[s.gotH.length]? = some x ∧ s.q = x :: s'.q ∧ s'.gotH = s.gotH ++ [x] ∧ (s'.th 1).val = x ∧
      s'.putH = s.putH := by
  have g := (all_reachable c hc.1 hc.2 hr).good
  cases step_sound c s s' _ h with
  | actW hth hp hw => simp [Cfg.isWriter, hc.1] at hw
  | @actR _ _ x rest hth hp hw hq =>
    refine ⟨x, ?_, hq, rfl, ?_, rfl⟩
    · rw [g.fifo, hq]
      simp
    · rw [th_set hth rfl]
  | actUnder hth hp hw hq =>
    rw [th_eq hth] at g
    exact absurd hq (g.rHas (.inl hp))

/-- What a `get` returns is the item its `popleft` took (the last entry of the history of taken items). -/
theorem Lane_get_returns_taken (c : Cfg) (hc : c.single) (s : State) (hr : Reachable c s) (v : Nat) (s' : State)
    (h : step c s (.ret 1 .ok v) = some s') : s.gotH.getLast? = some v := by
  have g := (all_reachable c hc.1 hc.2 hr).good
  cases step_sound c s s' _ h with
  | ret hth hp =>
    rw [← th_eq hth] at hp ⊢
    exact g.rVal (.inr (.inr hp))

/-- `popleft` is never executed on an empty deque (the `if` instead of `while` is sound for one reader) … -/
theorem Lane_no_underflow (c : Cfg) (hc : c.single) (s : State) (hr : Reachable c s) :
    (s.th 1).pc = .act → s.q ≠ [] :=
  fun h => ((all_reachable c hc.1 hc.2 hr).good).rHas (Or.inl h)

/-- … so no call ever ends with the `IndexError` of `popleft`, a `put` never ends with `Empty` and a `get` never
    ends with `Full`. -/
theorem Lane_outcomes (c : Cfg) (hc : c.single) (s : State) (hr : Reachable c s) (x : Res) :
    (((s.th 0).pc = .leave x ∨ (s.th 0).pc = .fin x) → x = .ok ∨ x = .full) ∧
    (((s.th 1).pc = .leave x ∨ (s.th 1).pc = .fin x) → x = .ok ∨ x = .empty) := by
  have g := (all_reachable c hc.1 hc.2 hr).good
  exact ⟨fun h => (g.wRes x h).imp id And.left, fun h => (g.rRes x h).imp id And.left⟩

/-! ## C08: the bound, and who blocks when -/

/-- `maxsize > 0`: the deque never holds more than `maxsize` items (the `if` instead of `while` is sound for one
    writer). -/
theorem Lane_bound (c : Cfg) (hc : c.single) (s : State) (hr : Reachable c s) (hm : 0 < c.maxsize) :
    s.q.length ≤ c.maxsize :=
  ((all_reachable c hc.1 hc.2 hr).good).bound hm

/-- The mutex: at most one thread is inside a `with` block, and it is the owner. -/
theorem Lane_mutex (c : Cfg) (hc : c.single) (s : State) (hr : Reachable c s) :
    ((s.th 0).pc.Holds ↔ s.owner = some 0) ∧ ((s.th 1).pc.Holds ↔ s.owner = some 1) ∧
      ¬((s.th 0).pc.Holds ∧ (s.th 1).pc.Holds) := by
  have g := (all_reachable c hc.1 hc.2 hr).good
  refine ⟨g.own0.symm, g.own1.symm, ?_⟩
  rintro ⟨h0, h1⟩
  cases (g.own0.mpr h0).symm.trans (g.own1.mpr h1)

/-- No lost wake-up.  A writer parked in `_not_full.wait` that has not been notified: the deque is full, or the
    reader has just taken an item and is — still inside its `with` block — at the `notify()` that wakes it; and the
    reader is not parked.  Symmetrically for a parked reader. -/
theorem Lane_no_lost_wakeup (c : Cfg) (hc : c.single) (s : State) (hr : Reachable c s) :
    ((s.th 0).pc = .wait → (s.th 0).notified = false →
        ((0 < c.maxsize ∧ s.q.length = c.maxsize) ∨ (s.th 1).pc = .note) ∧
        ¬((s.th 1).pc = .wait ∧ (s.th 1).notified = false)) ∧
    ((s.th 1).pc = .wait → (s.th 1).notified = false →
        (s.q = [] ∨ (s.th 0).pc = .note) ∧ ¬((s.th 0).pc = .wait ∧ (s.th 0).notified = false)) := by
  have g := (all_reachable c hc.1 hc.2 hr).good
  refine ⟨fun a b => ⟨?_, fun h => g.not_both_parked ⟨⟨a, b⟩, h⟩⟩,
    fun a b => ⟨g.rWait a b, fun h => g.not_both_parked ⟨h, ⟨a, b⟩⟩⟩⟩
  exact (g.wWait a b).imp_left fun hf => ⟨hf.1, Nat.le_antisymm (g.bound hf.1) hf.2⟩

/-- Progress: in every reachable state some step other than a new call or a timeout is enabled, unless the lane is
    quiescent: the mutex is free and each thread is idle or parked, un-notified, on a condition that is really
    false (writer: deque full; reader: deque empty), and at most one of them is parked.  So the two threads are never
    both blocked, a thread is never blocked while its condition holds, and with a live peer (one that goes on
    calling) a blocking call cannot wait for ever. -/
theorem Lane_progress (c : Cfg) (hc : c.single) (s : State) (hr : Reachable c s) :
    (∃ a, a.internal = true ∧ (step c s a).isSome = true) ∨ Quiescent c s :=
  progress c s (all_reachable c hc.1 hc.2 hr)

/-- Termination measure for the steps of a call: every step other than a new `call` strictly decreases `mu`
    (≤ 8 per thread), so between two calls of the environment at most 16 steps happen, and a call needs at most 8
    steps of its own thread. -/
theorem Lane_call_steps_bounded (c : Cfg) (hc : c.single) (s : State) (hr : Reachable c s)
    (as : List Act) (s' : State) (hn : ∀ a ∈ as, a.isCall = false) (hrun : Core.run (step c) s as = some s') :
    as.length + mu s' ≤ mu s ∧ mu s ≤ 16 :=
  ⟨run_no_call_le c hc.1 as s s' (all_reachable c hc.1 hc.2 hr) hn hrun, mu_le s⟩

/-- A parked writer is released by the peer's next `get`, whatever its mode: from a quiescent state with the writer
    parked, the reader's call runs `acquire, check, popleft, notify` without waiting and the writer's waiter lock is
    released. -/
theorem Lane_parked_writer_released (c : Cfg) (hc : c.single) (s : State) (hr : Reachable c s) (m : Mode)
    (hq : Quiescent c s) (hw : (s.th 0).pc = .wait) :
    ∃ s', Core.run (step c) s [.call 1 m 0, .acquire 1, .check 1, .act 1, .notify 1] = some s' ∧
      (s'.th 0).notified = true ∧ (s'.th 0).pc = .wait ∧ s'.q.length + 1 = s.q.length :=
  parked_writer_released c hc.1 s (all_reachable c hc.1 hc.2 hr) m hq hw

/-- A parked reader is released by the peer's next `put`, whatever its mode and item. -/
theorem Lane_parked_reader_released (c : Cfg) (hc : c.single) (s : State) (hr : Reachable c s) (m : Mode) (x : Nat)
    (hq : Quiescent c s) (hw : (s.th 1).pc = .wait) :
    ∃ s', Core.run (step c) s [.call 0 m x, .acquire 0, .check 0, .act 0, .notify 0] = some s' ∧
      (s'.th 1).notified = true ∧ (s'.th 1).pc = .wait ∧ s'.q = [x] :=
  parked_reader_released c hc.1 s (all_reachable c hc.1 hc.2 hr) m x hq hw

/-! ## Non-vacuity: concrete runs (kernel-evaluated) -/

/-- `put 7` by one complete call -/
def putCall (x : Nat) (m : Mode := .block) : List Act :=
  [.call 0 m x, .acquire 0, .check 0, .act 0, .notify 0, .unlock 0, .ret 0 .ok x]

/-- the bound is attained: `maxsize = 2`, two puts, the deque holds 2 items; a third, non-blocking, put is at
    `raise Full` with exactly `maxsize` items in the deque -/
example :
    let c : Cfg := { maxsize := 2 }
    ∃ s, Reachable c s ∧ c.single ∧ s.q.length = c.maxsize ∧ (s.th 0).pc = .leave .full ∧ (s.th 0).mode = .nowait := by
  refine ⟨_, ⟨putCall 7 ++ putCall 8 ++ [.call 0 .nowait 9, .acquire 0, .check 0], rfl⟩, ?_⟩
  decide

/-- a blocked writer is released: `maxsize = 1`; `put 7` returns, `put 8` parks on the full deque (quiescent: no
    internal step is enabled), the reader's `get` takes 7 and notifies, the writer wakes up, re-acquires the mutex
    and appends 8; both calls return -/
example :
    let c : Cfg := { maxsize := 1 }
    let park : List Act := putCall 7 ++ [.call 0 .block 8, .acquire 0, .check 0]
    (∃ s, Core.run (step c) (init c) park = some s ∧ (s.th 0).pc = .wait ∧ (s.th 0).notified = false ∧
        (internalActs s).all (fun a => (step c s a).isNone) = true) ∧
    (∃ s, Core.run (step c) (init c)
        (park ++ [.call 1 .block 0, .acquire 1, .check 1, .act 1, .notify 1, .wake 0, .unlock 1, .reacq 0, .act 0,
          .ret 1 .ok 7, .notify 0, .unlock 0, .ret 0 .ok 8]) = some s ∧
        s.q = [8] ∧ s.gotH = [7] ∧ (s.th 0).pc = .idle ∧ (s.th 1).pc = .idle) := by
  refine ⟨⟨_, rfl, ?_⟩, ⟨_, rfl, ?_⟩⟩ <;> decide

/-- a timed `get` on an empty lane expires: it parks, the timeout fires, it re-acquires the mutex, removes its
    waiter lock and raises `Empty` -/
example :
    let c : Cfg := { maxsize := 3 }
    ∃ s, Reachable c s ∧ (s.th 1).pc = .idle ∧ s.neW = [] ∧ s.owner = none := by
  refine ⟨_, ⟨[.call 1 .timed 0, .acquire 1, .check 1, .timeoutFire 1, .reacq 1, .unlock 1, .ret 1 .empty 0], rfl⟩, ?_⟩
  decide

/-- the subtlety of `threading.Condition`: a `notify()` issued after a timed wait expired but before the waiter
    removed its lock from the list is consumed by that waiter.  Here the timed `get` expires, the writer's `put 5`
    notifies the expired waiter, and the `get` raises `Empty` although the deque holds an item (allowed by
    `Lane_empty_only_when_empty`: its timeout has fired) -/
example :
    let c : Cfg := { maxsize := 3 }
    ∃ s, Reachable c s ∧ (s.th 1).pc = .leave .empty ∧ s.q = [5] ∧ (s.th 1).fired = true := by
  refine ⟨_, ⟨[.call 1 .timed 0, .acquire 1, .check 1, .timeoutFire 1,
               .call 0 .block 5, .acquire 0, .check 0, .act 0, .notify 0, .unlock 0, .reacq 1], rfl⟩, ?_⟩
  decide

/-- `maxsize = 0` is unbounded: five puts in a row without a reader -/
example :
    let c : Cfg := { maxsize := 0 }
    ∃ s, Reachable c s ∧ s.q = [1, 2, 3, 4, 5] := by
  refine ⟨_, ⟨putCall 1 ++ putCall 2 ++ putCall 3 ++ putCall 4 ++ putCall 5, rfl⟩, ?_⟩
  decide

/-! ## The outcome table of a call -/

/-- `put`: a blocking call never raises `Full`; a non-blocking call raises `Full` only while the deque holds exactly
    `maxsize > 0` items (it is still inside its `with` block, so nothing has changed since its check); a timed call
    raises `Full` only after its timeout fired. -/
theorem Lane_full_only_when_full (c : Cfg) (hc : c.single) (s : State) (hr : Reachable c s) :
    (((s.th 0).pc = .leave .full ∨ (s.th 0).pc = .fin .full) → (s.th 0).mode ≠ .block) ∧
    ((s.th 0).pc = .leave .full → (s.th 0).mode = .nowait → 0 < c.maxsize ∧ s.q.length = c.maxsize) ∧
    (((s.th 0).pc = .leave .full ∨ (s.th 0).pc = .fin .full) → (s.th 0).mode = .timed → (s.th 0).fired = true) := by
  have g := (all_reachable c hc.1 hc.2 hr).good
  obtain ⟨hblock, hnow, htimed⟩ := g.writer.failure nofun
  exact ⟨hblock, fun h hm => ⟨(hnow h hm).1, Nat.le_antisymm (g.bound (hnow h hm).1) (hnow h hm).2⟩, htimed⟩

/-- `get`: a blocking call never raises `Empty`; a non-blocking call raises `Empty` only while the deque is empty; a
    timed call raises `Empty` only after its timeout fired. -/
theorem Lane_empty_only_when_empty (c : Cfg) (hc : c.single) (s : State) (hr : Reachable c s) :
    (((s.th 1).pc = .leave .empty ∨ (s.th 1).pc = .fin .empty) → (s.th 1).mode ≠ .block) ∧
    ((s.th 1).pc = .leave .empty → (s.th 1).mode = .nowait → s.q = []) ∧
    (((s.th 1).pc = .leave .empty ∨ (s.th 1).pc = .fin .empty) → (s.th 1).mode = .timed → (s.th 1).fired = true) := by
  exact (all_reachable c hc.1 hc.2 hr).good.reader.failure nofun

/-- The decision at the `if` (line 52 / 64), as a function of the deque alone: a call goes on to `append` /
    `popleft` iff the atomic specification's action is enabled at that moment; otherwise it raises (non-blocking)
    or parks (blocking / timed). -/
theorem Lane_check_decides (c : Cfg) (hc : c.single) (s s' : State) :
    (step c s (.check 0) = some s' →
      ((s'.th 0).pc = .act ↔ Spec.canPut c.maxsize s.q = true) ∧
      ((s'.th 0).pc = .leave .full ↔ (Spec.canPut c.maxsize s.q = false ∧ (s.th 0).mode = .nowait)) ∧
      ((s'.th 0).pc = .wait ↔ (Spec.canPut c.maxsize s.q = false ∧ (s.th 0).mode ≠ .nowait))) ∧
    (step c s (.check 1) = some s' →
      ((s'.th 1).pc = .act ↔ s.q ≠ []) ∧
      ((s'.th 1).pc = .leave .empty ↔ (s.q = [] ∧ (s.th 1).mode = .nowait)) ∧
      ((s'.th 1).pc = .wait ↔ (s.q = [] ∧ (s.th 1).mode ≠ .nowait))) := by
  have hfull : mustWait c s 0 = true ↔ Spec.canPut c.maxsize s.q = false :=
    (waits_writer hc.1).trans (canPut_false_iff _ _).symm
  have hroom : mustWait c s 0 = false ↔ Spec.canPut c.maxsize s.q = true := by
    rw [← Bool.not_eq_true, hfull, Bool.not_eq_false]
  constructor
  · intro h
    obtain ⟨ha, hl, hw⟩ := check_decides h
    rw [failRes_writer hc.1] at hl
    exact ⟨ha.trans hroom, hl.trans (and_congr_left' hfull), hw.trans (and_congr_left' hfull)⟩
  · intro h
    obtain ⟨ha, hl, hw⟩ := check_decides h
    rw [failRes_reader hc.1] at hl
    exact ⟨ha.trans (goes_reader hc.1), hl.trans (and_congr_left' (waits_reader hc.1)),
      hw.trans (and_congr_left' (waits_reader hc.1))⟩

/-! ## Refinement: the lane implements the atomic bounded FIFO that the stream models use -/

/-- Abstraction = the deque.  Every step of the lane is a step of the atomic specification `Lane.Spec` (a `put x`
    at the `append`, a `get` at the `popleft`, enabled there) or leaves the abstract state unchanged. -/
theorem Lane_refines_step (c : Cfg) (hc : c.single) (s : State) (hr : Reachable c s) (a : Act) (s' : State)
    (h : step c s a = some s') :
    match lin c s a with
    | some b => Spec.step c.maxsize s.q b = some s'.q
    | none => s'.q = s.q :=
  refine_step c hc.1 s s' a (all_reachable c hc.1 hc.2 hr) (step_sound c s s' a h)

/-- Every run of the lane projects — `put` linearised at its `append`, `get` at its `popleft` — to a run of the
    atomic specification from the empty queue, ending in the lane's deque. -/
theorem Lane_refines_run (c : Cfg) (hc : c.single) (as : List Act) (s : State)
    (h : Core.run (step c) (init c) as = some s) :
    Core.run (Spec.step c.maxsize) [] (specTrace c (init c) as) = some s.q :=
  refine_run c hc.1 as (init c) s (inv_init c hc.1 hc.2) h

/-- blocked ⇔ the specification's action is not enabled.  (⇒) a thread parked and not notified, outside the window
    in which its peer is at the waking `notify()`: the atomic action is disabled.  (⇐) while the atomic action is
    disabled the thread is nowhere between its wake-up and its `append` / `popleft`. -/
theorem Lane_blocked_iff_spec_disabled (c : Cfg) (hc : c.single) (s : State) (hr : Reachable c s) :
    ((s.th 0).pc = .wait → (s.th 0).notified = false → (s.th 1).pc ≠ .note → Spec.canPut c.maxsize s.q = false) ∧
    (Spec.canPut c.maxsize s.q = false → ¬(s.th 0).released) ∧
    ((s.th 1).pc = .wait → (s.th 1).notified = false → (s.th 0).pc ≠ .note → Spec.step c.maxsize s.q .get = none) ∧
    (Spec.step c.maxsize s.q .get = none → ¬(s.th 1).released) := by
  have g := (all_reachable c hc.1 hc.2 hr).good
  refine ⟨?_, ?_, ?_, ?_⟩
  · intro a b hn
    exact (canPut_false_iff _ _).mpr ((g.wWait a b).resolve_right hn)
  · intro hd hrel
    cases hd.symm.trans ((canPut_iff _ _).mpr (g.wRoom hrel))
  · intro a b hn
    exact (spec_get_none _ _).mpr ((g.rWait a b).resolve_right hn)
  · intro hd hrel
    exact g.rHas hrel ((spec_get_none _ _).mp hd)

/-! ### … and the stream models use exactly that specification -/

/-- `Model/Fifo.lean` (the queue is `SingleLane(capacity + 1)`): every step changes `queue` by an enabled action of
    the atomic specification with `maxsize = cap + 1`, or not at all. -/
theorem Fifo_queue_is_atomic_spec (c : Fifo.Cfg) (s s' : Fifo.State) (a : Fifo.Act) (h : Fifo.step c s a = some s') :
    s'.queue = s.queue ∨ (∃ x, Spec.step (c.cap + 1) s.queue (.put x) = some s'.queue) ∨
      Spec.step (c.cap + 1) s.queue .get = some s'.queue := by
  have hS := Fifo.step_sound c s s' a h
  cases hS <;> first
    | (left; rfl)
    | (right; left; exact ⟨_, spec_put _ _ _ (by assumption)⟩)
    | (right; right; exact spec_get _ _ _ _ (by assumption))

/-- the feeder's `put` of `Model/Fifo.lean` is enabled iff the feeder holds an element and the specification's
    `put` is enabled (`maxsize = cap + 1`) -/
theorem Fifo_put_enabled_iff (c : Fifo.Cfg) (s : Fifo.State) :
    (Fifo.step c s .put).isSome = true ↔ (∃ i, s.fpc = .hold i) ∧ Spec.canPut (c.cap + 1) s.queue = true := by
  simp only [Fifo.step, Spec.canPut]
  cases s.fpc <;> simp

/-- `Model/Buffer.lean` (the queue is `SingleLane(maxsize)`, `1 ≤ maxsize`): the same. -/
theorem Buffer_queue_is_atomic_spec (c : Buffer.Cfg) (s s' : Buffer.State) (a : Buffer.Act)
    (h : Buffer.step c s a = some s') :
    s'.queue = s.queue ∨ (∃ x, Spec.step c.maxsize s.queue (.put x) = some s'.queue) ∨
      Spec.step c.maxsize s.queue .get = some s'.queue := by
  have hS := Buffer.step_sound c s s' a h
  cases hS <;> first
    | (left; rfl)
    | (right; left; exact ⟨_, spec_put _ _ _ (by assumption)⟩)
    | (right; right; exact spec_get _ _ _ _ (by assumption))

end Lane
