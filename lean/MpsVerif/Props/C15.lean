import MpsVerif.Proofs.RemoteExc
/-!
# C15 — exceptions keep type, args and traceback text across processes

Model: `Model/RemoteExc.lean` (`wrapWith` = `RemoteException.__init__`, `pk`/`rebuild` =
`__reduce__`/`_rebuild_exception` and `EnsembleError.__reduce__`, `hop` = wrap + pickle round
trip, `run` = any list of hops, each with its own process-name prefix and an optional re-raise
(with an arbitrary new traceback text) before it).  Class and arguments are opaque naturals, texts
are lists of opaque tokens, so the theorems hold for every class, every argument tuple, every
traceback (any depth), every cause chain, every process name, every number of hops and every
nesting depth of `EnsembleError`s.  "Picklable" is the model's `pk` keeping class and arguments
(assumption about `pickle`, enforced as the generator predicate of the check).

Hypotheses: `e.live = some own` — the exception carries a traceback whose formatted own part is
`own` (so the originally formatted traceback is `fmtChain F own e.cause`, cause chain included);
`e.mem.ok` — every exception object nested in it (for an `EnsembleError`) carries a live or a
remote traceback, hereditarily, and nested `RemoteException` objects are as their constructor
leaves them.  Without a traceback the real constructor raises `ValueError`; so does the model
(`C15_no_traceback`), i.e. the hypotheses are the guard of the code, not an artefact.
-/
namespace RemoteExc

/-- no hop ever fails (`ValueError`) for an exception that carries tracebacks -/
theorem C15_defined (F : Fmt) (e : Exc) (hok : e.ok = true) (hs : List Hop) :
    ∃ e', run F e hs = some e' := by
  cases hs with
  | nil => exact ⟨e, rfl⟩
  | cons h hs =>
    obtain ⟨_, _, _, _, _, _, _, h2, _⟩ := run_ok F e hok h hs
    exact ⟨_, h2⟩

/-- **round trip**: wrap in a process with prefix `p`, pickle, unpickle, then any further hops `hs`
    (re-wrapped at each; raised again or not before each): the result has the original class and
    arguments, `is_remote_exception` holds, and `get_remote_traceback` contains the originally
    formatted traceback -/
theorem C15_roundtrip (F : Fmt) (e : Exc) (own : Text) (hl : e.live = some own) (hn : e.mem.ok = true)
    (p : Text) (hs : List Hop) :
    ∃ e' t, run F e (⟨p, none⟩ :: hs) = some e' ∧ e'.cls = e.cls ∧ e'.args = e.args ∧
      e'.isRemote = true ∧ e'.remoteTb = some t ∧ fmtChain F own e.cause <:+: t := by
  obtain ⟨t0, t, m, ht, _, _, _, h2, h3, _⟩ := run_ok F e (ok_of_live e own hl hn) ⟨p, none⟩ hs
  refine ⟨_, t, h2, rfl, rfl, rfl, rfl, ?_⟩
  cases (wrapText_live F p e own hl).symm.trans ht
  exact (List.suffix_append p _).isInfix.trans h3

/-- the same for ANY first hop (the holder may raise the exception again before the first wrap) and
    any exception that carries tracebacks (live, or already remote and merely forwarded): with
    `t0` the text `RemoteException.__init__` computes at the first hop — prefix ++ formatted
    traceback if there is a live one, the carried remote text otherwise — the final remote text
    contains `t0`; class and arguments are unchanged -/
theorem C15_roundtrip_general (F : Fmt) (e : Exc) (hok : e.ok = true) (h0 : Hop) (hs : List Hop) :
    ∃ e' t0 t, run F e (h0 :: hs) = some e' ∧ e'.cls = e.cls ∧ e'.args = e.args ∧ e'.isRemote = true ∧
      wrapText F h0.proc (h0.pre e).live (h0.pre e).cause .dflt = some t0 ∧
      e'.remoteTb = some t ∧ t0 <:+: t := by
  obtain ⟨t0, t, m, ht, _, _, _, h2, h3, _⟩ := run_ok F e hok h0 hs
  exact ⟨_, t0, t, h2, rfl, rfl, rfl, ht, rfl, h3⟩

/-- **forwarding is the identity**: after the first hop, any number of further hops that do not
    raise the exception again give back the *same* exception — class, arguments, remote text
    (identical, not merely containing), nested results -/
theorem C15_forward_identical (F : Fmt) (e : Exc) (hok : e.ok = true) (h0 : Hop) (hs : List Hop)
    (hf : ∀ h ∈ hs, h.reraise = none) :
    ∃ e1, run F e [h0] = some e1 ∧ run F e (h0 :: hs) = some e1 := by
  obtain ⟨t0, t, m, _, _, _, h1, h2, _, h4⟩ := run_ok F e hok h0 hs
  rw [h4 hf] at h2
  exact ⟨_, (run_cons_eq F e _ h0 [] h1).trans rfl, h2⟩

/-- hop by hop: the text after one more hop contains the text before it; class, arguments and
    nested results are unchanged; the whole exception is unchanged if that hop only forwards -/
theorem C15_text_grows (F : Fmt) (e : Exc) (hok : e.ok = true) (h0 : Hop) (hs : List Hop) (h : Hop) :
    ∃ e1 e2 t1 t2, run F e (h0 :: hs) = some e1 ∧ run F e (h0 :: (hs ++ [h])) = some e2 ∧
      e1.remoteTb = some t1 ∧ e2.remoteTb = some t2 ∧ t1 <:+: t2 ∧ e2.cls = e1.cls ∧ e2.args = e1.args ∧
      e2.mem = e1.mem ∧ (h.reraise = none → e2 = e1) := by
  obtain ⟨t0, t1, m, _, hm, _, _, h2, _, _⟩ := run_ok F e hok h0 hs
  obtain ⟨t2, h4, h5, h6⟩ := run_recv F e.cls e.args m hm [h] t1
  refine ⟨_, .mk e.cls e.args none (.remote t2) m, t1, t2, h2, ?_, rfl, rfl, h5, rfl, rfl, rfl, ?_⟩
  · rw [← List.cons_append, run_append, h2]
    exact h4
  · intro hn
    rw [h6 fun x hx => List.mem_singleton.mp hx ▸ hn]

/-- **nested exceptions**: after any number of hops the result list of an `EnsembleError` is, entry
    by entry and hereditarily (`ImgMems`, defined by structural recursion in
    `Proofs/RemoteExc.lean`): the same plain values, and for every nested exception an exception
    of the same class and arguments with `is_remote_exception`, whose remote text is *identical*
    to the text its `RemoteException` held at the origin (or, for a bare exception object, to
    prefix ++ its formatted traceback), and whose own nested results are preserved likewise -/
theorem C15_ensemble (F : Fmt) (e : Exc) (own : Text) (hl : e.live = some own) (hn : e.mem.ok = true)
    (p : Text) (hs : List Hop) :
    ∃ e', run F e (⟨p, none⟩ :: hs) = some e' ∧ ImgMems F p e.mem e'.mem := by
  obtain ⟨_, _, m, _, _, hi, _, h2, _⟩ := run_ok F e (ok_of_live e own hl hn) ⟨p, none⟩ hs
  exact ⟨_, h2, hi⟩

/-- the same for any first hop and any exception that carries tracebacks -/
theorem C15_ensemble_general (F : Fmt) (e : Exc) (hok : e.ok = true) (h0 : Hop) (hs : List Hop) :
    ∃ e', run F e (h0 :: hs) = some e' ∧ ImgMems F h0.proc e.mem e'.mem := by
  obtain ⟨_, _, m, _, _, hi, _, h2, _⟩ := run_ok F e hok h0 hs
  exact ⟨_, h2, hi⟩

/-! `ImgMems` spelled out, one kind of entry at a time (so that `C15_ensemble` can be read without
    opening `Proofs/`): `m'` is the received result list. -/

theorem C15_img_nil (F : Fmt) (p : Text) (m' : Mems) : ImgMems F p .nil m' ↔ m' = .nil :=
  Iff.rfl

/-- a plain value arrives as the same value -/
theorem C15_img_val (F : Fmt) (p : Text) (v : Nat) (r m' : Mems) :
    ImgMems F p (.val v r) m' ↔ ∃ r', m' = .val v r' ∧ ImgMems F p r r' :=
  Iff.rfl

/-- a `RemoteException(e)` holding text `t` arrives as an exception object of `e`'s class and
    arguments, without live traceback, with `is_remote_exception` and remote text exactly `t`,
    and `e`'s own nested results arrive likewise -/
theorem C15_img_rem (F : Fmt) (p : Text) (e : Exc) (t : Text) (r m' : Mems) :
    ImgMems F p (.rem e t r) m' ↔ ∃ e' r', m' = .exc e' r' ∧
      (e'.cls = e.cls ∧ e'.args = e.args ∧ e'.live = none ∧ e'.isRemote = true ∧ e'.remoteTb = some t ∧
        ImgMems F p e.mem e'.mem) ∧ ImgMems F p r r' := by
  show (∃ e' r', m' = .exc e' r' ∧ ImgT F p e t e' ∧ ImgMems F p r r') ↔ _
  simp only [imgT_iff, cause_remote_iff, and_assoc]

/-- a bare exception object `e` in the list arrives like a `RemoteException(e)` made by the first
    hop's process: remote text = prefix ++ its formatted traceback if it has a live one (so it
    contains the originally formatted traceback), else the remote text it already carried -/
theorem C15_img_exc (F : Fmt) (p : Text) (e : Exc) (r m' : Mems) :
    ImgMems F p (.exc e r) m' ↔ ∃ t, wrapText F p e.live e.cause .dflt = some t ∧
      ImgMems F p (.rem e t r) m' := by
  simp only [ImgMems]
  constructor
  · rintro ⟨e', r', t, rfl, h1, h2, h3⟩
    exact ⟨t, h1, e', r', rfl, h2, h3⟩
  · rintro ⟨t, h1, e', r', rfl, h2, h3⟩
    exact ⟨e', r', t, rfl, h1, h2, h3⟩

theorem C15_img_exc_live (F : Fmt) (p : Text) (e : Exc) (own t : Text) (hl : e.live = some own)
    (h : wrapText F p e.live e.cause .dflt = some t) : t = p ++ fmtChain F own e.cause ∧ fmtChain F own e.cause <:+: t := by
  cases (wrapText_live F p e own hl).symm.trans h
  exact ⟨rfl, (List.suffix_append p _).isInfix⟩

/-- the explicit-`tb` branches of the constructor: a string is used verbatim, a traceback object
    is formatted like the exception's own; class and arguments are kept -/
theorem C15_explicit_tb (F : Fmt) (e : Exc) (hn : e.mem.ok = true) (p : Text) (ar : TbArg) (hd : ar ≠ .dflt) :
    ∃ e1, hopWith F p ar e = some e1 ∧ e1.cls = e.cls ∧ e1.args = e.args ∧ e1.recv = true ∧
      e1.remoteTb = some (match ar with
        | .str t => t | .tb own => p ++ fmtChain F own e.cause | .dflt => []) := by
  cases ar with
  | dflt => exact absurd rfl hd
  | str t =>
    obtain ⟨m, h1, hr, _⟩ := hop_first F p e (.str t) hn t rfl
    exact ⟨_, h1, rfl, rfl, (Bool.and_eq_true _ _).mpr ⟨rfl, hr⟩, rfl⟩
  | tb own =>
    obtain ⟨m, h1, hr, _⟩ := hop_first F p e (.tb own) hn _ rfl
    exact ⟨_, h1, rfl, rfl, (Bool.and_eq_true _ _).mpr ⟨rfl, hr⟩, rfl⟩

/-- the guard is real: an exception without a live traceback that did not come through
    `RemoteException` cannot be wrapped (`ValueError` in the code) -/
theorem C15_no_traceback (F : Fmt) (p : Text) (e : Exc) (hl : e.live = none) (hr : e.isRemote = false) :
    hop F p e = none := by
  cases e with
  | mk c a l k m =>
    cases (hl : l = none)
    cases k with
    | remote t => exact nomatch hr
    | none => rfl
    | other _ => rfl

/-! ### non-vacuity -/

/-- an `EnsembleError` (class 9) raised with a cause chain, holding a value, a `RemoteException`
    (class 1, text `[50]`) and a nested `EnsembleError` (class 9) that holds a bare live
    exception (class 2); three hops: wrapped in process `[70]`, forwarded by `[71]`, raised again
    (own text `[42]`) and wrapped by `[72]` -/
example :
    let F : Fmt := ⟨[1], [2], [3]⟩
    let inner : Exc := .mk 9 [1] (some [41]) .none (.exc (.mk 2 [8] (some [43]) .none .nil) .nil)
    let e : Exc := .mk 9 [2] (some [40]) (.other [30])
      (.val 5 (.rem (.mk 1 [7] (some [44]) .none .nil) [50] (.exc inner .nil)))
    e.ok = true ∧
    run F e [⟨[70], none⟩, ⟨[71], none⟩, ⟨[72], some [42]⟩] =
      some (.mk 9 [2] none (.remote [72, 1, 70, 30, 40, 2, 3, 42])
        (.val 5 (.exc (.mk 1 [7] none (.remote [50]) .nil)
          (.exc (.mk 9 [1] none (.remote [70, 41]) (.exc (.mk 2 [8] none (.remote [70, 43]) .nil) .nil)) .nil)))) :=
  ⟨rfl, rfl⟩

/-- the guard: a nested exception object without any traceback makes the constructor fail -/
example :
    let F : Fmt := ⟨[1], [2], [3]⟩
    hop F [70] (.mk 9 [2] (some [40]) .none (.exc (.mk 1 [7] none .none .nil) .nil)) = none :=
  rfl

end RemoteExc
