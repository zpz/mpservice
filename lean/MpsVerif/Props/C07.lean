import MpsVerif.Proofs.LedgerInv
/-!
# C07 — an abandoned request (timeout, dropped stream) never harms the server

In the ledger model a pending request's deadline may expire at **any** moment (`expire r`,
then `cancel r`), in particular between the gather thread's `cancelled()` test (`gcheck`) and its
`set_result` (`gset`).  All theorems below, and those of C06 / C02, hold for every reachable state,
i.e. in the presence of arbitrary abandonments.
-/
namespace Ledger

/-- the gather thread never dies (repaired code: `guardSet = true`) -/
theorem C07_gather_alive (c : Cfg) (hg : c.guardSet = true) (callers : List Caller) (hn : AllNew callers)
    (s : State) (hr : Reachable c callers s) : s.gpc ≠ .dead :=
  (all_reachable c callers hn hr).res.alive hg

/-- the abandoning caller gets its own `TimeoutError`, and a request that ended (any outcome)
    keeps that outcome: a late result is discarded, never delivered -/
theorem C07_outcome_final (c : Cfg) (s s' : State) (a : Act) (r : Nat) (o : Outcome)
    (hd : (s.get r).pc = .done o) (hs : step c s a = some s') : (s'.get r).pc = .done o :=
  (step_sound c s s' a hs).done_stays r hd

/-- a cancelled future is never resolved afterwards (the late result is discarded) -/
theorem C07_cancelled_stays (c : Cfg) (s s' : State) (a : Act) (r : Nat)
    (hf : (s.get r).fut = .cancelled) (hs : step c s a = some s') : (s'.get r).fut = .cancelled :=
  (step_sound c s s' a hs).cancelled_stays r hf

/-- the slot of an abandoned request is returned like any other: its ledger entry is removed when
    its (discarded) result is gathered — `pop` removes the entry before looking at the future -/
theorem C07_slot_of_abandoned_returned (c : Cfg) (callers : List Caller) (hn : AllNew callers) (s : State)
    (hr : Reachable c callers s) (hi : s.inflight = []) (ho : s.outq = [])
    (hl : ∀ r, (s.get r).pc ≠ .ledgered) : s.ledger = [] :=
  (all_reachable c callers hn hr).cons.ledger_nil hi ho hl

/-- non-vacuity, and the race itself: the deadline expires between the gather thread's
    `cancelled()` test and its `set_result`; the repaired server survives … -/
example :
    let c : Cfg := { cap := 2, guardSet := true }
    ∃ s, Reachable c [{}] s ∧ (s.get 0).pc = .done .timeout ∧ s.gpc = .idle ∧ s.ledger = [] := by
  refine ⟨_, ⟨[.mint 0, .acquire 0, .testPass 0, .insert 0, .enqueue 0, .emit 0 0, .pop 0 0, .gcheck,
              .expire 0, .cancel 0, .gset], rfl⟩, ?_⟩
  decide

/-- … whereas without the guard (the pinned code, finding F5) the same schedule kills the gather
    thread -/
example :
    let c : Cfg := { cap := 2, guardSet := false }
    ∃ s, Reachable c [{}] s ∧ s.gpc = .dead := by
  refine ⟨_, ⟨[.mint 0, .acquire 0, .testPass 0, .insert 0, .enqueue 0, .emit 0 0, .pop 0 0, .gcheck,
              .expire 0, .cancel 0, .gset], rfl⟩, ?_⟩
  decide

end Ledger
