import MpsVerif.Proofs.BatchLive
import MpsVerif.Proofs.BatchTime
/-!
# C09 — workers see well-formed batches; no request waits for a full batch

Model: `Model/Batch.lean` (`k` workers competing for `q_in` under its read lock, collector
thread, batch buffer, deadline-bounded consumer, optional in-worker thread pool).  A *call* is an
entry of the history list `s.calls`, appended by the `callEnter` action — the moment the real
`Worker.call` is invoked.  All theorems hold in every reachable state, i.e. for **every** action
list: every arrival pattern (including exception values, inputs that `preprocess` rejects, the
end marker), every interleaving of collectors, consumers, competing workers and pool threads,
every clock behaviour allowed by maximal progress, and every `k`, `batch_size`,
`batch_wait_time`, with or without pool.
-/
namespace Batch

/-- `batch_size = b > 0`: `call` is invoked only with non-empty lists of at most `b` elements, each
    of which arrived as a regular input that `preprocess` accepts (kind `good`; an exception value
    has kind `exc`, a rejected input kind `rej`; the end marker is not a `Req` at all). -/
theorem C09_wellformed (c : Cfg) (s : State) (hr : Reachable c s) (hb : 0 < c.b) :
    ∀ cl ∈ s.calls, cl.isList = true ∧ cl.batch ≠ [] ∧ cl.batch.length ≤ c.b ∧
      ∀ r ∈ cl.batch, r.kind = .good ∧ r ∈ s.arrived := by
  intro cl hcl
  obtain ⟨⟨h1, h2, h3⟩, h4⟩ := (shape_reachable hr).calls cl hcl
  have h2 : cl.batch.length ≤ max c.b 1 := h2
  exact ⟨by simp [h4, hb], h1, by omega, h3⟩

/-- `batch_size = 0`: `call` receives single elements (never a list), each a genuine input. -/
theorem C09_single (c : Cfg) (s : State) (hr : Reachable c s) (hb : c.b = 0) :
    ∀ cl ∈ s.calls, cl.isList = false ∧ ∃ r, cl.batch = [r] ∧ r.kind = .good ∧ r ∈ s.arrived := by
  intro cl hcl
  obtain ⟨⟨h1, h2, h3⟩, h4⟩ := (shape_reachable hr).calls cl hcl
  refine ⟨by simp [h4, hb], ?_⟩
  have h2 : cl.batch.length ≤ max c.b 1 := h2
  match hbt : cl.batch, h1, h2 with
  | [r], _, _ => exact ⟨r, rfl, h3 r (hbt ▸ List.mem_cons_self)⟩
  | _ :: _ :: _, _, hl =>
    rw [hb] at hl
    cases Nat.le_of_succ_le_succ hl

/-- A batch is handed to `stream()` no later than `batch_wait_time` after its first element was
    taken (`trel ≤ t0 + wait`; at once when the wait is 0), never before, and without a pool
    `call` is entered at that very clock value. -/
theorem C09_deadline (c : Cfg) (s : State) (hr : Reachable c s) :
    ∀ cl ∈ s.calls, cl.t0 ≤ cl.trel ∧ cl.trel ≤ cl.t0 + c.wait ∧ cl.trel ≤ cl.tcall ∧
      (c.pool = false → cl.tcall = cl.trel) ∧ (c.wait = 0 → cl.trel = cl.t0) := by
  intro cl hcl
  obtain ⟨h1, h2, h3, _, h5⟩ := (time_reachable hr).calls cl hcl
  exact ⟨h1, h2, h3, h5, fun hw => by omega⟩

/-- a consumer never sits on an element past its deadline: while a batch is being assembled or is
    in the consumer's hand the clock is within `[t0, t0 + wait]` -/
theorem C09_deadline_pending (c : Cfg) (s : State) (hr : Reachable c s) (i : Nat) (b : List Req) (t0 : Nat)
    (h : (s.ws i).gph = .coll b t0 ∨ (s.ws i).gph = .ready b t0) : t0 ≤ s.clock ∧ s.clock ≤ t0 + c.wait := by
  have hg := ((time_reachable hr).ws i).gph
  rcases h with h | h <;> rw [h] at hg <;> exact hg

/-- Partition.  In every reachable state every request that arrived is in exactly one place:
    still on `q_in`, inside exactly one worker on its way to `call`, in exactly one recorded call
    (of whichever worker) exactly once, or short-circuited to `q_out` exactly once — the four
    counts add up to 1.  Hence no request is ever in two batches or twice in one
    (`(calledAll s).map uid` has no duplicates), a regular input accepted by `preprocess` is never
    short-circuited, and a rejected input / exception value is never passed to `call`. -/
theorem C09_partition (c : Cfg) (s : State) (hr : Reachable c s) :
    (∀ r ∈ s.arrived, cntU r.uid (reqsOf s.qin) + flightCnt r.uid c.k s.ws + cntU r.uid (calledAll s)
        + shortCnt r.uid s.out = 1) ∧
    ((calledAll s).map (·.uid)).Nodup ∧
    (∀ r ∈ s.arrived, r.kind = .good → shortCnt r.uid s.out = 0) ∧
    (∀ r ∈ s.arrived, r.kind ≠ .good → r ∉ calledAll s ∧ shortCnt r.uid s.out ≤ 1) := by
  have hc := count_reachable hr
  have hs := shape_reachable hr
  have hone : ∀ r ∈ s.arrived, cntU r.uid (reqsOf s.qin) + flightCnt r.uid c.k s.ws + cntU r.uid (calledAll s)
      + shortCnt r.uid s.out = 1 :=
    fun r hra => (hc.tot r.uid).trans (cntU_arrived_mem hc hra)
  refine ⟨hone, ?_, ?_, ?_⟩
  · rw [List.nodup_iff_count]
    intro u
    have := hc.tot u
    rw [cntU_arrived hc] at this
    rw [← cntU_eq_count]
    split at this <;> omega
  · intro r hra hk
    refine Nat.eq_zero_of_not_pos fun hpos => ?_
    obtain ⟨o, ho, hsh⟩ := shortCnt_pos hpos
    obtain ⟨r', hr', hu, hk'⟩ := short_reachable hr o ho r.uid hsh
    exact hk' (arrived_uid_inj hc hr' hra hu ▸ hk)
  · intro r hra hk
    exact ⟨fun hrc => hk (called_genuine hs hrc).1, by have := hone r hra; omega⟩

/-- Exactly once, at rest: when nothing is on `q_in` or inside a worker any more, every regular
    input that `preprocess` accepts appears in exactly one batch exactly once (over all workers), and
    every rejected input / exception value was forwarded to `q_out` exactly once and appears in no batch. -/
theorem C09_partition_at_rest (c : Cfg) (s : State) (hr : Reachable c s) (hq : Quiet c s) :
    (∀ r ∈ s.arrived, r.kind = .good → cntU r.uid (calledAll s) = 1 ∧ r ∈ calledAll s) ∧
    (∀ r ∈ s.arrived, r.kind ≠ .good → shortCnt r.uid s.out = 1 ∧ r ∉ calledAll s) := by
  obtain ⟨h1, _, h3, h4⟩ := C09_partition c s hr
  have hs := shape_reachable hr
  have hc := count_reachable hr
  have hz : ∀ u, cntU u (reqsOf s.qin) = 0 ∧ flightCnt u c.k s.ws = 0 :=
    fun u => ⟨by rw [hq.1]; rfl, flight_zero_of u c.k s.ws hq.2⟩
  constructor
  · intro r hra hk
    have := h1 r hra
    have := h3 r hra hk
    have := hz r.uid
    have hone : cntU r.uid (calledAll s) = 1 := by omega
    exact ⟨hone, mem_called_of_cnt hs hc hra (by omega)⟩
  · intro r hra hk
    have := h1 r hra
    have h5 := h4 r hra hk
    have := hz r.uid
    have h0 : cntU r.uid (calledAll s) = 0 :=
      Nat.eq_zero_of_not_pos fun hpos => h5.1 (mem_called_of_cnt hs hc hra hpos)
    exact ⟨by omega, h5.1⟩

/-- Progress: as long as some request is pending (on `q_in` or inside a worker, not yet handed to
    `call` / short-circuited), the servlet has a worker (`0 < k`) and the end marker has not been
    issued, the system can move by itself: some worker action is enabled, or the clock can advance
    towards a deadline some consumer is waiting for.  No arrival is needed — in particular the
    batch need not fill up. -/
theorem C09_progress (c : Cfg) (s : State) (hr : Reachable c s) (hk : 0 < c.k) (hns : s.stopped = false)
    (hp : ∃ r, Pending c s r) : ∃ a, (ustep c s a).isSome = true := by
  obtain ⟨a, hu, hen⟩ := progress_of_inv (shape_reachable hr) (ph_reachable hr) hk hns hp
  exact ⟨a, by rw [ustep, hu]; exact hen⟩

/-- Bounded: without further arrivals at most `mu c s` worker actions / useful ticks are possible
    from any state `s` (every such step strictly decreases the measure `mu`). -/
theorem C09_served_within (c : Cfg) (s s' : State) (as : List Act) (h : Core.run (ustep c) s as = some s') :
    as.length + mu c s' ≤ mu c s :=
  Core.length_le_measure (mu c) (mu_ustep c) as s s' h

/-- A lone request is always served.  From any reachable state before the end marker, let the
    system run on its own (no further arrival) in any way it likes until it can do nothing more:
    this takes at most `mu c s` steps, and then nothing is pending and every regular input that
    had arrived — e.g. a single request that will never be joined by another — is in a batch that
    was handed to `call` (exactly one, exactly once, by `C09_partition_at_rest`). -/
theorem C09_lone_served (c : Cfg) (s : State) (hr : Reachable c s) (hk : 0 < c.k) (hns : s.stopped = false)
    (as : List Act) (s' : State) (hrun : Core.run (ustep c) s as = some s') (hmax : ∀ a, ustep c s' a = none) :
    as.length ≤ mu c s ∧ Quiet c s' ∧ ∀ r ∈ s.arrived, r.kind = .good → r ∈ calledAll s' := by
  obtain ⟨hreach, hst, harr⟩ := run_ustep hrun
  have hr' : Reachable c s' := hr.trans hreach
  have hnp : ¬ ∃ r, Pending c s' r := by
    intro hp
    obtain ⟨a, ha⟩ := C09_progress c s' hr' hk (by rw [hst]; exact hns) hp
    rw [hmax a] at ha
    cases ha
  have hq := quiet_of_not_pending hnp
  refine ⟨by have := C09_served_within c s s' as hrun; omega, hq, ?_⟩
  intro r hra hk'
  exact ((C09_partition_at_rest c s' hr' hq).1 r (by rw [harr]; exact hra) hk').2

/-- The hypotheses of `C09_lone_served` can always be met: from every reachable state before the end
    marker the system, left alone, does reach (within `mu c s` steps) a state at rest in which every
    regular input that had arrived has been handed to `call`. -/
theorem C09_lone_served_attained (c : Cfg) (s : State) (hr : Reachable c s) (hk : 0 < c.k) (hns : s.stopped = false) :
    ∃ as s', Core.run (ustep c) s as = some s' ∧ as.length ≤ mu c s ∧ Quiet c s' ∧
      ∀ r ∈ s.arrived, r.kind = .good → r ∈ calledAll s' := by
  obtain ⟨as, s', hrun, _, hmax⟩ := Core.exists_maximal_run (mu c) (fun _ => True) (fun _ _ _ _ _ => trivial)
    (fun s a s' _ => mu_ustep c s a s') s trivial
  obtain ⟨h1, h2, h3⟩ := C09_lone_served c s hr hk hns as s' hrun hmax
  exact ⟨as, s', hrun, h1, h2, h3⟩

/-- Output side.  (a) a value written to `q_out` for uid `u` is `u`'s own result and `u` was a
    member of a recorded call; (b) the exception of call number `cid` is delivered only to members
    of that call's batch; (c) all-or-nothing: for every recorded call, either its entry is still
    with its worker (inside `call` / waiting to be written) or **every** member of its batch has
    received one and the same outcome — all their own values, or all the call's exception
    (`zip(uids, results)` pairs in order; a failing batched call fails exactly its members);
    (d) no request ever gets more than one output. -/
theorem C09_outputs (c : Cfg) (s : State) (hr : Reachable c s) :
    (∀ u v, Out.res u (.val v) ∈ s.out → v = u ∧ ∃ cl ∈ s.calls, ∃ r ∈ cl.batch, r.uid = u) ∧
    (∀ u cid, Out.res u (.callErr cid) ∈ s.out → ∃ cl, s.calls[cid]? = some cl ∧ ∃ r ∈ cl.batch, r.uid = u) ∧
    (∀ cid cl, s.calls[cid]? = some cl →
      (∃ e ∈ (s.ws cl.w).pd, cidOf e.st = some cid) ∨ ∃ ok, ∀ r ∈ cl.batch, outcome cid ok r ∈ s.out) ∧
    (∀ u, shortCnt u s.out + valCnt u s.out ≤ 1) := by
  have hl := link_reachable hr
  refine ⟨fun u v h => hl.out _ h, fun u cid h => hl.out _ h, hl.done, ?_⟩
  intro u
  have h1 := (count_reachable hr).tot u
  have h2 := emit_reachable hr u
  rw [cntU_arrived (count_reachable hr)] at h1
  split at h1 <;> omega

/-- non-vacuity (deadline attained, lone request served): one worker, `batch_size = 2`, wait 3;
    a single request arrives and nothing else ever does: it is handed to `call` alone at exactly
    `t0 + wait` -/
example :
    let c : Cfg := { k := 1, b := 2, wait := 3, pool := false }
    ∃ s, Reachable c s ∧ s.calls = [⟨0, [⟨0, .good⟩], true, 0, 3, 3⟩] ∧ s.stopped = false := by
  refine ⟨_, ⟨[.arrive .good, .cLock 0, .cGet 0, .cPut 0, .cNoMore 0, .cDecide 0, .gFirst 0, .tick, .tick, .tick,
              .gTimeout 0, .gRelease 0, .callEnter 0 0], rfl⟩, ?_⟩
  decide

/-- non-vacuity (well-formedness / partition with competing workers): two workers, `batch_size = 2`;
    arrivals good, rejected, exception value, good, good: worker 0 gets the batch `[0, 3]`, the two
    bad inputs are short-circuited, worker 1 gets `[4]`; the failing call of worker 0 delivers its
    error to exactly `0` and `3` -/
example :
    let c : Cfg := { k := 2, b := 2, wait := 0, pool := false }
    ∃ s, Reachable c s ∧ s.calls.map (fun cl => (cl.w, cl.batch.map (·.uid))) = [(0, [0, 3]), (1, [4])] ∧
      s.out = [.res 1 .preErr, .res 2 .inErr, .res 0 (.callErr 0), .res 3 (.callErr 0), .res 4 (.val 4)] := by
  refine ⟨_, ⟨[.arrive .good, .arrive .rej, .arrive .exc, .arrive .good, .arrive .good,
              .cLock 0, .cGet 0, .cPut 0, .cMore 0, .cPut 0, .cMore 0, .cPut 0, .cMore 0, .cPut 0, .cNoMore 0,
              .cDecide 0, .cLock 1, .cGet 1, .cPut 1, .cNoMore 1, .cDecide 1,
              .gFirst 0, .gNext 0, .gRelease 0, .callEnter 0 0, .callRet 0 0 false, .emit 0,
              .gFirst 1, .gTimeout 1, .gRelease 1, .callEnter 1 0, .callRet 1 0 true, .emit 1], rfl⟩, ?_⟩
  decide

/-- non-vacuity (`batch_size = 0`, pool): single elements, two calls in flight, the second returns
    first, outputs are written in order -/
example :
    let c : Cfg := { k := 1, b := 0, wait := 0, pool := true }
    ∃ s, Reachable c s ∧ s.calls.map (fun cl => (cl.isList, cl.batch.map (·.uid))) = [(false, [0]), (false, [1])] ∧
      s.out = [.res 0 (.val 0), .res 1 (.val 1)] := by
  refine ⟨_, ⟨[.arrive .good, .arrive .good, .sGet 0, .sGet 0, .callEnter 0 0, .callEnter 0 1, .callRet 0 1 true,
              .callRet 0 0 true, .emit 0, .emit 0], rfl⟩, ?_⟩
  decide

end Batch
