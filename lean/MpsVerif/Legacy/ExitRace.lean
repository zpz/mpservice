import MpsVerif.Core.Sys
/-!
# Legacy model: who gets the exit status (defect F28)

`Popen.poll` is `if returncode is None: try: pid, sts = os.waitpid(...) except OSError: return None;
if pid == self.pid: returncode = decode sts; return returncode`.  Only one `waitpid` ever receives
the status of a dead child; every other one fails with `ECHILD` and `poll` then returns `None` —
also when the winner has not yet stored `returncode`.  In mpservice two threads poll: the caller of
`join()` (`super().join()` = blocking `waitpid`, then — pinned code — `done()` = `exitcode` = `poll`)
and the result-collector thread (`while self.exitcode is None: sleep`).

`fixed = false`: pinned `join`: "not `done()`" is taken for a timeout and `join` returns silently.
`fixed = true` : repaired `join` (F28): "has the child ended" is read off the process sentinel, then
the collector thread is joined (it ends only after it has seen a stored exit status).

`F28_witness` (a concrete run, by evaluation): on the pinned protocol `join()` of a dead child can return silently.
`F28_fixed`  (all schedules): on the repaired protocol it never does, and when it answers the exit
status is stored (`exitcode` is not `None` afterwards).
-/
namespace ExitRace

inductive Who where
  | collector | caller
  deriving Repr, DecidableEq

inductive CPc where
  | polling | holding | done      -- holding: its waitpid returned the status, `returncode` not yet stored
  deriving Repr, DecidableEq

inductive MPc where
  | blocked | check | joinCollector | answeredProperly | returnedSilently
  deriving Repr, DecidableEq

structure State where
  dead : Bool
  reapedBy : Option Who
  stored : Bool
  cpc : CPc
  mpc : MPc
  deriving Repr, DecidableEq

inductive Act where
  | die | cPoll | cStore | mWake | mCheck | mJoined
  deriving Repr, DecidableEq

def init : State := { dead := false, reapedBy := none, stored := false, cpc := .polling, mpc := .blocked }

def step (fixed : Bool) (s : State) : Act → Option State
  | .die => if s.dead = false then some { s with dead := true } else none
  | .cPoll =>
    -- one iteration of `while self.exitcode is None: sleep(0.001)`
    if s.cpc = .polling then
      if s.stored = true then some { s with cpc := .done }
      else if s.dead = true ∧ s.reapedBy = none then some { s with reapedBy := some .collector, cpc := .holding }
      else some s          -- not dead yet, or ECHILD: `None`, go round again
    else none
  | .cStore => if s.cpc = .holding then some { s with stored := true, cpc := .done } else none
  | .mWake =>
    -- the caller's blocking waitpid returns once the child is dead: with the status, or with ECHILD
    if s.mpc = .blocked ∧ s.dead = true then
      if s.reapedBy = none then some { s with reapedBy := some .caller, stored := true, mpc := .check }
      else some { s with mpc := .check }
    else none
  | .mCheck =>
    if s.mpc = .check then
      if fixed then some { s with mpc := .joinCollector }        -- `_exited()`: the sentinel says dead
      else if s.stored = true then some { s with mpc := .joinCollector }
      else some { s with mpc := .returnedSilently }               -- `done()` is False: "timed out"
    else none
  | .mJoined =>
    if s.mpc = .joinCollector ∧ s.cpc = .done then some { s with mpc := .answeredProperly } else none

/-- F28: pinned protocol — the collector wins the status, the caller's `done()` still sees `None`:
    `join()` returns silently although the child is dead. -/
theorem F28_witness :
    ∃ s, Core.run (step false) init [.die, .cPoll, .mWake, .mCheck] = some s ∧
      s.dead = true ∧ s.mpc = .returnedSilently := ⟨_, rfl, rfl, rfl⟩

structure Inv (s : State) : Prop where
  i1 : s.mpc ≠ .returnedSilently
  i2 : s.mpc ≠ .blocked → s.dead = true
  i3 : s.cpc = .done → s.stored = true
  i4 : s.mpc = .answeredProperly → s.stored = true

theorem inv_step (s s' : State) (a : Act) (hi : Inv s) (h : step true s a = some s') : Inv s' := by
  obtain ⟨i1, i2, i3, i4⟩ := hi
  cases a with
  | die =>
    obtain ⟨_, rfl⟩ := Option.ite_some_none_eq_some.mp h
    exact ⟨i1, fun _ => rfl, i3, i4⟩
  | cPoll =>
    obtain ⟨_, h⟩ := Option.ite_none_right_eq_some.mp h
    split at h
    · cases h
      exact ⟨i1, i2, fun _ => ‹s.stored = true›, i4⟩
    · split at h
      · cases h
        exact ⟨i1, i2, nofun, i4⟩
      · cases h
        exact ⟨i1, i2, i3, i4⟩
  | cStore =>
    obtain ⟨_, rfl⟩ := Option.ite_some_none_eq_some.mp h
    exact ⟨i1, i2, fun _ => rfl, fun _ => rfl⟩
  | mWake =>
    obtain ⟨⟨hm, hd⟩, h⟩ := Option.ite_none_right_eq_some.mp h
    split at h
    · cases h
      exact ⟨nofun, fun _ => hd, fun _ => rfl, fun _ => rfl⟩
    · cases h
      exact ⟨nofun, fun _ => hd, i3, nofun⟩
  | mCheck =>
    obtain ⟨hm, rfl⟩ := Option.ite_some_none_eq_some.mp h
    exact ⟨nofun, fun _ => i2 (by rw [hm]; decide), i3, nofun⟩
  | mJoined =>
    obtain ⟨⟨hm, hc⟩, rfl⟩ := Option.ite_some_none_eq_some.mp h
    exact ⟨nofun, fun _ => i2 (by rw [hm]; decide), i3, fun _ => i3 hc⟩

/-- F28 repaired: under every schedule `join()` never returns silently, and once it has answered
    the exit status is stored (the child is dead and `exitcode` is not `None`). -/
theorem F28_fixed (as : List Act) (s : State) (hr : Core.run (step true) init as = some s) :
    s.mpc ≠ .returnedSilently ∧ (s.mpc = .answeredProperly → s.dead = true ∧ s.stored = true) := by
  have hi : Inv s := Core.invariant_run (fun s a s' hi h => inv_step s s' a hi h) as init s
    ⟨nofun, fun h => absurd rfl h, nofun, nofun⟩ hr
  exact ⟨hi.i1, fun h => ⟨hi.i2 (by rw [h]; decide), hi.i4 h⟩⟩

/-- … and the repaired `join()` can always finish: a complete run -/
example : ∃ s, Core.run (step true) init [.die, .cPoll, .mWake, .mCheck, .cStore, .mJoined] = some s ∧
    s.mpc = .answeredProperly := ⟨_, rfl, rfl⟩

end ExitRace
