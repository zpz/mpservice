import MpsVerif.Model.Ledger
import MpsVerif.Core.Sys
/-!
# The pinned `_enqueue` (findings F3 and F4)

`Ledger.step` is the repaired code.  The pinned `_enqueue` differed in two places:

* F4 — the size test was an `if` in front of `wait()`: a caller woken by a notification went on to
  insert **without testing again** (`acquire` from `woken` leads straight to `passed`);
* F3 — `(uid, x)` was put on the input queue **before** the ledger insert (`enqueue` comes first and
  `insert` releases the lock).

`stepPinned` makes exactly these changes; everything else is `Ledger.step`.  The two theorems are
kernel-checked (`decide`) runs of the pinned model that violate C06 / C02: the same schedules are
what the check finds on the real code when the repairs are reverted.
-/
namespace Ledger.Pinned
open Ledger

def stepPinned (c : Cfg) (s : State) : Act → Option State
  | .acquire r =>
    if s.lock = none then
      match (s.get r).pc with
      | .start => some { (s.set r { s.get r with pc := .inCS }) with lock := some (.caller r) }
      | .woken => some { (s.set r { s.get r with pc := .passed }) with lock := some (.caller r) }   -- F4
      | _ => none
    else none
  | .enqueue r =>                                                                                  -- F3: first
    match (s.get r).pc, (s.get r).uid with
    | .passed, some u => some { (s.set r { s.get r with pc := .ledgered }) with inflight := s.inflight ++ [(u, r)] }
    | _, _ => none
  | .insert r =>                                                                                   -- F3: second
    match (s.get r).pc, (s.get r).uid with
    | .ledgered, some u =>
      some { (s.set r { s.get r with pc := .pending }) with ledger := s.ledger ++ [(u, r)], lock := none }
    | _, _ => none
  | a => step c s a

/-- F4: capacity 1, three callers without backpressure.  Caller 1 waits on the full server; caller 0's
    result is gathered and the notification wakes caller 1; before caller 1 re-acquires the lock,
    caller 2 arrives, finds room and inserts; caller 1 then inserts without testing again:
    backlog 2 > capacity 1. -/
theorem F4_overshoot :
    ∃ s, Core.run (stepPinned { cap := 1, guardSet := true })
        (init [{ bp := false }, { bp := false }, { bp := false }])
        [.mint 0, .acquire 0, .testPass 0, .enqueue 0, .insert 0,
         .mint 1, .acquire 1, .wait 1,
         .emit 0 0, .pop 0 0, .gcheck, .gset, .ntake, .nacquire, .nnotify 1,
         .mint 2, .acquire 2, .testPass 2, .enqueue 2, .insert 2,
         .acquire 1, .enqueue 1, .insert 1] = some s ∧ s.ledger.length = 2 := by
  refine ⟨_, rfl, ?_⟩
  decide

/-- F3: the input is on its way before the entry is recorded: a fast result reaches the gather thread
    first and is dropped ("not found in the backlog ledger"); the entry recorded afterwards is never
    removed — at rest the backlog is 1 and the caller is still waiting for a result that is gone. -/
theorem F3_dropped_response_and_leaked_slot :
    ∃ s, Core.run (stepPinned { cap := 2, guardSet := true }) (init [{}])
        [.mint 0, .acquire 0, .testPass 0, .enqueue 0, .emit 0 0, .pop 0 0, .insert 0] = some s ∧
      s.dropped = [(0, 0)] ∧ s.ledger = [(0, 0)] ∧ s.inflight = [] ∧ s.outq = [] ∧ (s.get 0).pc = .pending := by
  refine ⟨_, rfl, ?_⟩
  decide

end Ledger.Pinned
