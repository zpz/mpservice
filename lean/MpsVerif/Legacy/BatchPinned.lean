import MpsVerif.Core.Sys
/-!
# The pinned loop head of `_build_input_batches` loses a wake-up (finding F25)

Pinned code (src/mpservice/mpserver/_worker.py:545-547):

    if buffer.full():                 # tested WITHOUT the buffer's mutex
        with buffer._not_full:
            buffer._not_full.wait()   # no timeout

`SingleLane.get` pops under the mutex and then does `self._not_full.notify()`, which wakes a
thread only if one is already waiting.  Between the test and the `wait` the consumer may take
elements (each `get` notifies nobody) — even all of them — and then block on the empty buffer;
the collector then waits for a notification that only a `get` could give.  Collector and consumer
of that worker are blocked forever; requests on `q_in` are never served.

This file models exactly that hand-shake (collector loop head / put, consumer get) for one worker
and exhibits the deadlock by a kernel-checked action list.  `cap` is the buffer size
(`batch_size + 10`), `qin` the number of requests waiting on `q_in`, `buf` the buffer level.
The repaired loop head (test under the mutex) is what `Model/Batch.lean` has (`cLock` is enabled
whenever the buffer is not full) and `C09_progress` proves deadlock-free.
-/
namespace BatchPinned

inductive CPc where
  | top          -- about to test `buffer.full()`
  | fullSeen     -- saw a full buffer, not yet inside `wait()`
  | waiting      -- registered on `_not_full`
  | go           -- may take the read lock and move one element from `q_in` to the buffer
  deriving Repr, DecidableEq

structure State where
  qin : Nat
  buf : Nat
  cpc : CPc
  taken : Nat        -- elements the consumer has taken (history)
  deriving Repr, DecidableEq

inductive Act where
  | check | register | put | get
  deriving Repr, DecidableEq

def step (cap : Nat) (s : State) : Act → Option State
  | .check =>
    if s.cpc = .top then some { s with cpc := if cap ≤ s.buf then .fullSeen else .go } else none
  | .register =>
    if s.cpc = .fullSeen then some { s with cpc := .waiting } else none
  | .put =>
    -- `q_in.get()` blocks while `q_in` is empty
    if s.cpc = .go ∧ 0 < s.qin then some { s with qin := s.qin - 1, buf := s.buf + 1, cpc := .top } else none
  | .get =>
    -- consumer: `buffer.get()` blocks while the buffer is empty; `notify` wakes a registered waiter only
    if 0 < s.buf then
      some { s with buf := s.buf - 1, taken := s.taken + 1, cpc := if s.cpc = .waiting then .go else s.cpc }
    else none

def init (n : Nat) : State := { qin := n, buf := 0, cpc := .top, taken := 0 }

/-- no thread of the worker can move -/
def Stuck (cap : Nat) (s : State) : Prop := ∀ a, step cap s a = none

instance (cap : Nat) (s : State) : Decidable (Stuck cap s) :=
  decidable_of_iff (step cap s .check = none ∧ step cap s .register = none ∧ step cap s .put = none ∧
      step cap s .get = none)
    ⟨fun h a => by cases a <;> simp [h.1, h.2.1, h.2.2.1, h.2.2.2], fun h => ⟨h _, h _, h _, h _⟩⟩

/-- `batch_size = 2` (buffer of 12), 14 requests: the collector fills the buffer, sees it full, is
    delayed; the consumer takes all 12 elements; the collector then waits forever although the
    buffer is empty, with 2 requests still on `q_in`: a reachable state in which nothing can move. -/
theorem pinned_deadlock :
    ∃ s, Core.Reach (step 12) (init 14) s ∧ Stuck 12 s ∧ s.qin = 2 ∧ s.buf = 0 := by
  refine ⟨_, ⟨[.check, .put, .check, .put, .check, .put, .check, .put, .check, .put, .check, .put,
              .check, .put, .check, .put, .check, .put, .check, .put, .check, .put, .check, .put,
              .check,
              .get, .get, .get, .get, .get, .get, .get, .get, .get, .get, .get, .get,
              .register], rfl⟩, ?_⟩
  decide

/-- with the test under the mutex (test and registration are one atomic step: `check` goes straight
    to `waiting`), a waiting collector always sees a non-empty buffer, so the consumer can move -/
def stepFixed (cap : Nat) (s : State) : Act → Option State
  | .check =>
    if s.cpc = .top then some { s with cpc := if cap ≤ s.buf then .waiting else .go } else none
  | a => step cap s a

theorem fixed_waiting_nonempty (cap : Nat) (hc : 0 < cap) (n : Nat) (s : State)
    (hr : Core.Reach (stepFixed cap) (init n) s) : (s.cpc = .waiting → 0 < s.buf) ∧ s.cpc ≠ .fullSeen := by
  refine Core.invariant_reach (Inv := fun s => (s.cpc = .waiting → 0 < s.buf) ∧ s.cpc ≠ .fullSeen) ?_ (by simp [init]) hr
  intro s a s' hi hs
  cases a <;> simp only [stepFixed, step] at hs <;> split at hs <;> cases hs
  case check =>
    by_cases hb : cap ≤ s.buf <;> simp [hb]
    omega
  case register => exact absurd ‹_› hi.2
  case put => simp
  case get => by_cases hw : s.cpc = .waiting <;> simp [hw, hi.2]

end BatchPinned
