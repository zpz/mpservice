import MpsVerif.Proofs.LifecycleStep
import MpsVerif.Proofs.LifecycleStart
/-!
# The pinned (unrepaired) life-cycle code violates C11: kernel-checked witnesses

* F11 — `start` without clean-up (`Pinned.startT`): workers started before the failing one stay alive.
* F12 — pinned `Server.__exit__` order (`compileServer K t (pinned := true)`: `servlet.stop()`, gather, and only
  then the onboarding thread): the sentinel overtakes inputs still in the onboarding buffer, the worker leaves,
  the onboarding thread blocks on the full pipe and `__exit__` never returns.
* F18 — pinned `__exit__` does not reset the ledger: a result overtaken by the sentinel leaves its entry behind.
The same action lists are schedules of the real pinned code (see notes/C11.md for the replays found by the check).
-/
namespace Lifecycle.Pinned
open Lifecycle

/-- the pinned `ThreadServlet/ProcessServlet.start`: on a failing worker the error propagates, nothing is stopped -/
def workerEvs (sv : Nat) (bad : Nat → Nat → Bool) : (todo : Nat) → (i : Nat) → SRes
  | 0, _ => { evs := [], err := none }
  | todo + 1, i =>
    if bad sv i then { evs := [.launch (sv, i), .fail (sv, i)], err := some (sv, i) }
    else
      let r := workerEvs sv bad todo (i + 1)
      { evs := .launch (sv, i) :: r.evs, err := r.err }

/-- pinned compound servlets do not stop the members already started either -/
def startT (bad : Nat → Nat → Bool) : Tree → Nat → SRes
  | .simple k _, sv => workerEvs sv bad k 0
  | .seq a b, sv | .ens a b, sv | .sw a b, sv =>
    let ra := startT bad a (sv + 1)
    match ra.err with
    | some e => { evs := ra.evs, err := some e }
    | none =>
      let rb := startT bad b (sv + 1 + a.size)
      { evs := ra.evs ++ rb.evs, err := rb.err }

/-- F11: second worker of the second servlet fails; the three workers started before it keep running -/
theorem F11_witness :
    let r := startT (fun sv w => sv == 2 && w == 1) (.seq (.simple 2 false) (.simple 2 false)) 0
    r.err = some (2, 1) ∧ alive r.evs = [(1, 0), (1, 1), (2, 0)] := by
  decide

/-- F12: one process worker, pipe of one message, three abandoned inputs -/
theorem F12_witness :
    ∃ s, Reachable (compileServer 1 (.simple 1 true) (pinned := true)) s ∧ ¬ Final s ∧
      ∀ a, step (compileServer 1 (.simple 1 true) (pinned := true)) s a = none := by
  apply deadlocks_sound _
    [.inject, .inject, .inject, .get 2 2 0, .put 2, .main, .get 0 0 0, .put 0, .get 0 0 0, .put 0, .put 0,
     .get 1 1 0, .get 1 1 0, .main, .main, .get 2 2 0, .put 2, .get 2 2 0, .main]
  decide

/-- F18: two thread workers; worker 1 forwards the sentinel while worker 0 still holds a result; the gather thread
    leaves; `__exit__` returns with the entry of that request still in the ledger -/
theorem F18_witness :
    (match Core.run (step (compileServer 1 (.simple 2 false) (pinned := true)))
        (init (compileServer 1 (.simple 2 false) (pinned := true)))
        [.inject, .get 0 0 0, .main, .get 1 0 0, .put 1, .put 1, .get 2 1 0, .put 0, .get 0 0 0, .put 0, .put 0,
         .main, .main, .main] with
     | some s => decide (Final s) && s.ledger == 1
     | none => false) = true := by
  decide

end Lifecycle.Pinned
