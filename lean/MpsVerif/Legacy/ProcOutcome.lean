import MpsVerif.Model.ProcOutcome
/-!
# Legacy model: the pinned `_collect_result` (defect F13)

In the pinned code the collector thread, on `EOFError` with an exit status other than -15,
**raises** `OSError(sig)` instead of making it the error the future is resolved with: the
collector thread ends (its own `Thread` object carries the exception) and the process's future
is never resolved.  `join()` / `exception()` re-raise the collector thread's exception when they
join it; `wait` / `as_completed` wait on the future forever.  (The pinned collector also does not
wait for the child's sentinel and does not join the logger thread — that is F15 and does not matter
here.)  Same state and actions as `Model/ProcOutcome.lean`; `kEofCode` and the accessors differ.

Kernel-checked witness (a concrete run, by evaluation): SIGKILL while the target runs.
-/
namespace ProcOutcome.Legacy

def step (c : Cfg) (s : State) : Act → Option State
  | .kEofCode =>
    if s.kpc = .eof then
      match s.exitcode with
      | some x =>
        if -x = 15 then some { s with kpc := .waitExit }
        else
          -- `raise OSError(...)`: the collector thread is over, the future untouched
          some { s with kpc := .done, error := .exc (.osErr (-x)) }
      | none => none
    else none
  | .ask _ => none        -- accessors: see `canAnswer` / `answer` below
  | a => ProcOutcome.step c s a

/-- pinned accessors: `join`/`exception` join the collector thread first, which re-raises its
    exception; `result` goes through `join`; `wait`/`as_completed` need the future -/
def canAnswer (a : Acc) (s : State) : Bool :=
  match a with
  | .join | .result | .exception => s.exitcode.isSome && s.kpc == .done
  | .done | .exitcode => true
  | .wait | .asCompleted => s.fut.isSome

def answer (a : Acc) (s : State) : Ans :=
  match s.fut with
  | some _ => ProcOutcome.answer a s
  | none =>
    match a with
    | .done => .flag s.exitcode.isSome
    | .exitcode => .code s.exitcode
    | _ => .raised s.error        -- re-raised from the collector thread's `join`

def witnessCfg : Cfg := { outcome := .ret (.val 5) }

def witness : List Act := [.cBoot, .kill 9, .kEof, .kEofCode]

/-- F13: a reachable state in which child and collector are gone, nothing but a new accessor call
    can happen, the future is unresolved — `wait` and `as_completed` can never return — and
    `exception()` *raises* the `OSError` where the property demands it be returned. -/
theorem F13_witness :
    ∃ s, Core.run (step witnessCfg) init witness = some s ∧
      s.cpc = .exited ∧ s.kpc = .done ∧ s.fut = none ∧ s.killed = some (9, .during) ∧
      (∀ a, step witnessCfg s a = none) ∧
      canAnswer .wait s = false ∧ canAnswer .asCompleted s = false ∧
      canAnswer .exception s = true ∧ answer .exception s = .raised (.exc (.osErr 9)) ∧
      finalAns witnessCfg.outcome s.killed .exception = .returned (.exc (.osErr 9)) := by
  refine ⟨_, rfl, rfl, rfl, rfl, rfl, ?_, rfl, rfl, rfl, rfl, rfl⟩
  intro a
  cases a <;> rfl

end ProcOutcome.Legacy
