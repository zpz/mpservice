import MpsVerif.Model.Buffer
import MpsVerif.Core.Sys
/-!
# The pinned `Buffer._finalize` (finding F6) and the pinned worker's `except Exception` (finding F7)

`Buffer.step` is the repaired code.  The pinned code differed in two places:

* `_finalize` emptied the queue **once** (`while not tasks.empty(): tasks.get()`) and then joined the
  worker (F6);
* the worker caught only `Exception`, so a source raising `StopRequested` (a `BaseException`)
  killed it without any end marker (F7).

`stepPinned` makes exactly these two changes (everything else is `Buffer.step`), and the witnesses
below are kernel-checked (`decide`) deadlocks: reachable, not final, no action enabled.
The same action lists are the schedules the check replays on the real code when the repairs are
reverted (`seeded/legacy-*`).
-/
namespace Buffer.Pinned
open Buffer

/-- how the pinned worker dies on `StopRequested`: no `STOPPED`, no exception object -/
structure PCfg extends Cfg where
  srcIsStopRequested : Bool

/-- pinned consumer phases after the flag is set: `drain` = the one-shot emptying loop,
    `closed` is reached through `joinWait` -/
inductive Phase where
  | normal | joinWait
  deriving Repr, DecidableEq

structure PState where
  base : State
  phase : Phase
  deriving Repr, DecidableEq

def pinit : PState := { base := init, phase := .normal }

def stepPinned (c : PCfg) (s : PState) : Act → Option PState
  | .srcRaise =>
    -- F7: StopRequested is not an `Exception`: the worker thread dies on the spot
    if c.srcIsStopRequested then
      if s.base.wpc = .idle ∧ s.base.pulled = c.n ∧ c.srcEnd = .exc then
        some { s with base := { s.base with wpc := .done } } else none
    else (step c.toCfg s.base .srcRaise).map (fun b => { s with base := b })
  | .drainPop =>
    -- F6: only while the one-shot loop runs
    if s.phase = .normal then (step c.toCfg s.base .drainPop).map (fun b => { s with base := b }) else none
  | .joined =>
    -- the loop ended (queue seen empty): from now on the consumer only waits for the worker
    match s.phase with
    | .normal =>
      if s.base.cpc = .drain ∧ s.base.queue = [] then some { s with phase := .joinWait } else none
    | .joinWait => (step c.toCfg s.base .joined).map (fun b => { s with base := b })
  | a => (step c.toCfg s.base a).map (fun b => { s with base := b })

def allActs : List Act :=
  [.pull, .srcEnd, .srcRaise, .wcheck, .stopSeen, .put, .putFin, .putStop, .putExc,
   .get, .yld, .getExc, .next, .close, .setFlag, .drainPop, .joined]

def stuck (c : PCfg) (s : PState) : Bool := allActs.all (fun a => (stepPinned c s a).isNone)

/-- F6: `buffer(1)` + `break` after the first element.  The worker holds element 2 while the queue
    holds element 1; `_finalize` empties the queue once and joins; the worker puts element 2, pulls
    element 3, sees the flag, and blocks putting `FINISHED` on the full one-slot queue. -/
theorem F6_buffer1_break_deadlock :
    ∃ s, Core.run (stepPinned { n := 9, srcEnd := .clean, maxsize := 1, srcIsStopRequested := false }) pinit
        [.pull, .wcheck, .put, .get, .pull, .wcheck, .put, .pull, .wcheck, .yld, .close, .setFlag,
         .drainPop, .joined, .put, .pull, .stopSeen] = some s ∧
      s.base.cpc ≠ .closed ∧ stuck { n := 9, srcEnd := .clean, maxsize := 1, srcIsStopRequested := false } s = true :=
  ⟨_, rfl, by decide, by decide⟩

/-- F7: a source that raises `StopRequested` after two elements: the worker dies, the consumer takes the
    two elements and then waits on the empty queue forever. -/
theorem F7_stoprequested_deadlock :
    ∃ s, Core.run (stepPinned { n := 2, srcEnd := .exc, maxsize := 4, srcIsStopRequested := true }) pinit
        [.pull, .wcheck, .put, .pull, .wcheck, .put, .srcRaise, .get, .yld, .next, .get, .yld, .next] = some s ∧
      s.base.cpc ≠ .closed ∧ stuck { n := 2, srcEnd := .exc, maxsize := 4, srcIsStopRequested := true } s = true :=
  ⟨_, rfl, by decide, by decide⟩

end Buffer.Pinned
