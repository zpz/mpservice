import MpsVerif.Model.RemoteExc
/-!
# Pickle's memo and `_rebuild_exception` (finding F22): pinned vs repaired code

`RemoteException.__reduce__` returns `(_rebuild_exception, (self.exc, self.tb))`.  Inside ONE
pickle payload `self.exc` is memoised by object identity, so when two `RemoteException` objects
hold the *same* exception object (e.g. two ensemble members raised one shared instance; the texts
differ because they were formatted after different `raise`s), unpickling calls
`_rebuild_exception` twice on the same new object.  The pinned code overwrites `__cause__`, hence
every alias ends with the text of the LAST wrapper.  The repaired code (fixes/F22-…patch) labels
a `copy.copy` when the object already carries a *different* `RemoteTraceback`.

The main model (`Model/RemoteExc.lean`) is a tree: every entry is rebuilt on its own.  This file
models one unpickling of a flat result list of `RemoteException` objects with explicit object
identities and a heap of labels, in both variants, and shows

* `F22_witness`                  — the pinned code violates the property (kernel-checked, `decide`);
* `C15_ensemble_pinned_partial`  — the pinned code meets it when no object is wrapped twice with
                                   different texts;
* `repaired_eq_spec`             — the repaired code meets it for EVERY payload, i.e. the tree
                                   model's entry-by-entry `pkMems` is what the repaired code computes
                                   even when entries share objects.
-/
namespace RemoteExc.Legacy

/-- a `RemoteException` in the result list: identity of the wrapped object, its class/args, text -/
structure Ent where
  oid : Nat
  cls : Nat
  args : List Nat
  tb : Text
  deriving Repr, DecidableEq

/-- what arrives for one entry: class, args, remote text -/
structure Out where
  cls : Nat
  args : List Nat
  text : Text
  deriving Repr, DecidableEq

/-- an unpickled object: the one pickle's memo holds for a source object, or a copy -/
inductive Ref where
  | memo (oid : Nat)
  | copy (k : Nat)
  deriving Repr, DecidableEq

/-- state of one `pickle.loads`: the label (`__cause__.tb`) of the memo object of every source
    object seen so far (latest binding first), the labels of the copies, and for every entry
    processed the object it refers to -/
structure St where
  memo : List (Nat × Text)
  copies : List Text
  out : List (Ent × Ref)
  deriving Repr

def init : St := ⟨[], [], []⟩

def St.label (s : St) : Ref → Option Text
  | .memo o => s.memo.lookup o
  | .copy k => s.copies[k]?

/-- pinned `_rebuild_exception`: `exc.__cause__ = RemoteTraceback(tb)` on the memo object -/
def stepPinned (s : St) (m : Ent) : St :=
  { s with memo := (m.oid, m.tb) :: s.memo, out := s.out ++ [(m, .memo m.oid)] }

/-- repaired `_rebuild_exception`: a copy is labelled when the memo object already carries a
    different text -/
def stepRepaired (s : St) (m : Ent) : St :=
  match s.memo.lookup m.oid with
  | none => { s with memo := (m.oid, m.tb) :: s.memo, out := s.out ++ [(m, .memo m.oid)] }
  | some t =>
    if t = m.tb then { s with memo := (m.oid, m.tb) :: s.memo, out := s.out ++ [(m, .memo m.oid)] }
    else { s with copies := s.copies ++ [m.tb], out := s.out ++ [(m, .copy s.copies.length)] }

/-- what the receiver sees once unpickling is over -/
def St.final (s : St) : List Out := s.out.map fun (m, r) => ⟨m.cls, m.args, (s.label r).getD []⟩

def pkPinned (ms : List Ent) : List Out := (ms.foldl stepPinned init).final
def pkRepaired (ms : List Ent) : List Out := (ms.foldl stepRepaired init).final

/-- the property (and the main model's `pkMems` on `rem` entries): every entry keeps its own text -/
def pkSpec (ms : List Ent) : List Out := ms.map fun m => ⟨m.cls, m.args, m.tb⟩

/-- the main model agrees with `pkSpec` (leaf members) -/
theorem pkMems_spec (m : Ent) (r : Mems) :
    pkMems (.rem (.mk m.cls m.args none .none .nil) m.tb r)
      = .exc (.mk m.cls m.args none (.remote m.tb) .nil) (pkMems r) := rfl

/-- **witness (F22)**: one object (oid 7) wrapped twice, texts `[50]` and `[51]`: on the pinned
    code the first entry arrives with the second entry's text; the repaired code keeps both -/
theorem F22_witness :
    let ms : List Ent := [⟨7, 1, [3], [50]⟩, ⟨7, 1, [3], [51]⟩]
    pkPinned ms ≠ pkSpec ms ∧ (pkPinned ms).map (·.text) = [[51], [51]] ∧
    (pkRepaired ms).map (·.text) = [[50], [51]] := by
  decide

/-! ### invariant: every processed entry refers to an object labelled with its own text -/

def Good (s : St) : Prop := ∀ x ∈ s.out, s.label x.2 = some x.1.tb

theorem final_of_good (s : St) (h : Good s) : s.final = pkSpec (s.out.map (·.1)) := by
  simp only [St.final, pkSpec, List.map_map]
  apply List.map_congr_left
  intro x hx
  simp [h x hx]

theorem out_foldl (step : St → Ent → St) (hstep : ∀ s m, ((step s m).out).map (·.1) = s.out.map (·.1) ++ [m])
    (ms : List Ent) (s : St) : ((ms.foldl step s).out).map (·.1) = s.out.map (·.1) ++ ms := by
  induction ms generalizing s with
  | nil => simp
  | cons m ms ih => simp [List.foldl_cons, ih, hstep]

theorem good_foldl (step : St → Ent → St) (P : St → Prop) (hstep : ∀ s m, P s → P (step s m))
    (ms : List Ent) (s : St) (h : P s) : P (ms.foldl step s) := by
  induction ms generalizing s with
  | nil => exact h
  | cons m ms ih => exact ih _ (hstep s m h)

theorem label_memo_cons (s : St) (o : Nat) (t : Text) (r : Ref) (copies : List Text) (out : List (Ent × Ref)) :
    (St.mk ((o, t) :: s.memo) copies out).label r =
      match r with
      | .memo o' => if o' = o then some t else s.memo.lookup o'
      | .copy k => copies[k]? := by
  cases r with
  | memo o' =>
    show ((o, t) :: s.memo).lookup o' = if o' = o then some t else s.memo.lookup o'
    rw [List.lookup_cons]
    by_cases h : o' = o
    · rw [if_pos h, beq_iff_eq.mpr h]
    · rw [if_neg h, beq_eq_false_iff_ne.mpr h]
  | copy k => rfl

theorem good_repaired (s : St) (m : Ent) (h : Good s) : Good (stepRepaired s m) := by
  -- labelling the memo object of `m` is harmless as long as it carries no other text
  have relabel : (∀ t, s.memo.lookup m.oid = some t → t = m.tb) →
      Good { s with memo := (m.oid, m.tb) :: s.memo, out := s.out ++ [(m, .memo m.oid)] } := by
    intro hl x hx
    rw [label_memo_cons]
    rcases List.mem_append.mp hx with hx | hx
    · have hg := h x hx
      cases hr : x.2 with
      | memo o' =>
        rw [hr] at hg
        show (if o' = m.oid then some m.tb else s.memo.lookup o') = _
        split
        · rename_i ho
          rw [ho] at hg
          rw [hl _ hg]
        · exact hg
      | copy k =>
        rw [hr] at hg
        exact hg
    · cases List.mem_singleton.mp hx
      exact if_pos rfl
  unfold stepRepaired
  split
  · rename_i hnone
    exact relabel fun t ht => nomatch hnone.symm.trans ht
  · rename_i t hsome
    split
    · rename_i heq
      refine relabel fun t' ht => ?_
      cases hsome.symm.trans ht
      exact heq
    · -- a copy is labelled, nothing else changes
      intro x hx
      rcases List.mem_append.mp hx with hx | hx
      · have hg := h x hx
        cases hr : x.2 with
        | memo o' =>
          rw [hr] at hg
          exact hg
        | copy k =>
          rw [hr] at hg
          obtain ⟨hk, -⟩ := List.getElem?_eq_some_iff.mp (hg : s.copies[k]? = _)
          exact (List.getElem?_append_left hk).trans hg
      · cases List.mem_singleton.mp hx
        exact List.getElem?_concat_length

theorem out_repaired (s : St) (m : Ent) : ((stepRepaired s m).out).map (·.1) = s.out.map (·.1) ++ [m] := by
  unfold stepRepaired
  split
  · exact List.map_append
  · split
    · exact List.map_append
    · exact List.map_append

/-- **the repaired code meets the property for every payload**, shared objects or not -/
theorem repaired_eq_spec (ms : List Ent) : pkRepaired ms = pkSpec ms := by
  have hg : Good (ms.foldl stepRepaired init) :=
    good_foldl stepRepaired Good good_repaired ms init (by intro x hx; simp [init] at hx)
  rw [pkRepaired, final_of_good _ hg, out_foldl stepRepaired out_repaired]
  simp [init]

/-! ### the pinned code, where it is right -/

/-- invariant for the pinned code under the hypothesis that equal objects carry equal texts -/
def GoodP (all : List Ent) (s : St) : Prop := Good s ∧ ∀ x ∈ s.out, x.1 ∈ all ∧ x.2 = .memo x.1.oid

theorem good_pinned (all : List Ent) (hall : ∀ a ∈ all, ∀ b ∈ all, a.oid = b.oid → a.tb = b.tb)
    (s : St) (m : Ent) (hm : m ∈ all) (h : GoodP all s) : GoodP all (stepPinned s m) := by
  obtain ⟨hg, hr⟩ := h
  refine ⟨fun x hx => ?_, fun x hx => ?_⟩
  · unfold stepPinned
    rw [label_memo_cons]
    rcases List.mem_append.mp hx with hx | hx
    · obtain ⟨hxa, hxr⟩ := hr x hx
      have hgx := hg x hx
      rw [hxr] at hgx ⊢
      show (if x.1.oid = m.oid then some m.tb else s.memo.lookup x.1.oid) = _
      split
      · rename_i ho
        rw [hall m hm x.1 hxa ho.symm]
      · exact hgx
    · cases List.mem_singleton.mp hx
      exact if_pos rfl
  · rcases List.mem_append.mp hx with hx | hx
    · exact hr x hx
    · cases List.mem_singleton.mp hx
      exact ⟨hm, rfl⟩

theorem out_pinned (s : St) (m : Ent) : ((stepPinned s m).out).map (·.1) = s.out.map (·.1) ++ [m] :=
  List.map_append

theorem goodP_foldl (all : List Ent) (hall : ∀ a ∈ all, ∀ b ∈ all, a.oid = b.oid → a.tb = b.tb)
    (ms : List Ent) (hsub : ∀ m ∈ ms, m ∈ all) (s : St) (h : GoodP all s) :
    GoodP all (ms.foldl stepPinned s) := by
  induction ms generalizing s with
  | nil => exact h
  | cons m ms ih =>
    exact ih (fun x hx => hsub x (List.mem_cons_of_mem _ hx)) _
      (good_pinned all hall s m (hsub m (List.mem_cons_self ..)) h)

/-- **C15_ensemble_pinned_partial**: on the pinned code the nested texts are preserved provided no
    exception object is wrapped twice with different texts.  (Full statement = `C15_ensemble` /
    `repaired_eq_spec`, which hold for the repaired code without this hypothesis; the pinned code
    fails it: `F22_witness`.) -/
theorem C15_ensemble_pinned_partial (ms : List Ent)
    (h : ∀ a ∈ ms, ∀ b ∈ ms, a.oid = b.oid → a.tb = b.tb) : pkPinned ms = pkSpec ms := by
  have hg : GoodP ms (ms.foldl stepPinned init) :=
    goodP_foldl ms h ms (fun _ hm => hm) init ⟨by intro x hx; simp [init] at hx, by intro x hx; simp [init] at hx⟩
  rw [pkPinned, final_of_good _ hg.1, out_foldl stepPinned out_pinned]
  simp [init]

end RemoteExc.Legacy
