import MpsVerif.Core.Validate
import Std.Data.HashSet
/-!
# Worklist version of the τ-closure (hash-set de-duplication, stops at the fixpoint)

Same soundness statement as `Core.Val.validate_sound`: every state the validator still holds was
reached by a genuine run of the model whose observable projection is the recorded trace.  Which
states the hash set filters out is irrelevant for soundness (any filter only drops states).
-/
namespace Core.Val

variable {σ α ω : Type}

/-- insert the not-yet-seen elements of `xs` into `seen`; returns the new set and the new elements -/
def addNew [BEq σ] [Hashable σ] (seen : Std.HashSet σ) (xs : List σ) : Std.HashSet σ × List σ :=
  xs.foldl (fun (p : Std.HashSet σ × List σ) s =>
    if p.1.contains s then p else (p.1.insert s, s :: p.2)) (seen, [])

theorem addNew_subset_aux [BEq σ] [Hashable σ] (xs : List σ) :
    ∀ (p : Std.HashSet σ × List σ) (P : σ → Prop), (∀ s ∈ p.2, P s) → (∀ s ∈ xs, P s) →
      ∀ s ∈ (xs.foldl (fun (p : Std.HashSet σ × List σ) s =>
        if p.1.contains s then p else (p.1.insert s, s :: p.2)) p).2, P s := by
  induction xs with
  | nil => intro p P h1 _ s hs; exact h1 s hs
  | cons x xs ih =>
    intro p P h1 h2 s hs
    simp only [List.foldl_cons] at hs
    apply ih _ P _ (fun s hs => h2 s (List.mem_cons_of_mem _ hs)) s hs
    intro t ht
    split at ht
    · exact h1 t ht
    · rcases List.mem_cons.mp ht with h | h
      · subst h; exact h2 _ List.mem_cons_self
      · exact h1 t h

theorem addNew_subset [BEq σ] [Hashable σ] (seen : Std.HashSet σ) (xs : List σ) :
    ∀ s ∈ (addNew seen xs).2, s ∈ xs :=
  addNew_subset_aux xs (seen, []) (· ∈ xs) (by simp) (fun s hs => hs)

def closeW [BEq σ] [Hashable σ] (S : LSys σ α ω) : Nat → Std.HashSet σ → List σ → List σ → List σ
  | 0, _, acc, _ => acc
  | k+1, seen, acc, fr =>
    let p := addNew seen (tauStep S fr)
    if p.2.isEmpty then acc else closeW S k p.1 (acc ++ p.2) p.2

/-- τ-closure of `ss` (worklist; at most `fuel` rounds, normally ends earlier at the fixpoint) -/
def tauCloseW [BEq σ] [Hashable σ] (S : LSys σ α ω) (fuel : Nat) (ss : List σ) : List σ :=
  let p := addNew {} ss
  closeW S fuel p.1 p.2 p.2

theorem reach_closeW [BEq σ] [Hashable σ] {S : LSys σ α ω} (hw : WF S) {ss0 : List σ} {es : List ω} (k : Nat) :
    ∀ (seen : Std.HashSet σ) (acc fr : List σ), (∀ s ∈ acc, Reach S ss0 es s) → (∀ s ∈ fr, Reach S ss0 es s) →
      ∀ s ∈ closeW S k seen acc fr, Reach S ss0 es s := by
  induction k with
  | zero => intro seen acc fr h1 _ s hs; exact h1 s hs
  | succ k ih =>
    intro seen acc fr h1 h2 s hs
    simp only [closeW] at hs
    have hnew : ∀ t ∈ (addNew seen (tauStep S fr)).2, Reach S ss0 es t := by
      intro t ht
      exact reach_tauStep hw h2 t (addNew_subset seen _ t ht)
    split at hs
    · exact h1 s hs
    · apply ih _ _ _ _ hnew s hs
      intro t ht
      rcases List.mem_append.mp ht with h | h
      · exact h1 t h
      · exact hnew t h

theorem reach_tauCloseW [BEq σ] [Hashable σ] {S : LSys σ α ω} (hw : WF S) {ss0 : List σ} {es : List ω}
    (fuel : Nat) {ss : List σ} (h : ∀ s ∈ ss, Reach S ss0 es s) :
    ∀ s ∈ tauCloseW S fuel ss, Reach S ss0 es s := by
  intro s hs
  simp only [tauCloseW] at hs
  have h0 : ∀ t ∈ (addNew (∅ : Std.HashSet σ) ss).2, Reach S ss0 es t :=
    fun t ht => h t (addNew_subset _ ss t ht)
  exact reach_closeW hw fuel _ _ _ h0 h0 s hs

def vstepW [BEq σ] [Hashable σ] {ε : Type} (S : LSys σ α ω) (fuel : Nat) (proj : ε → ω) (keep : ε → σ → Bool)
    (ss : List σ) (e : ε) : List σ :=
  (addNew {} ((obsStep S (tauCloseW S fuel ss) (proj e)).filter (keep e))).2

def validateW [BEq σ] [Hashable σ] {ε : Type} (S : LSys σ α ω) (fuel : Nat) (proj : ε → ω)
    (keep : ε → σ → Bool) : List σ → List ε → List σ
  | ss, [] => tauCloseW S fuel ss
  | ss, e :: es => validateW S fuel proj keep (vstepW S fuel proj keep ss e) es

theorem validateW_eq_foldl [BEq σ] [Hashable σ] {ε : Type} (S : LSys σ α ω) (fuel : Nat) (proj : ε → ω)
    (keep : ε → σ → Bool) (ss : List σ) (es : List ε) :
    validateW S fuel proj keep ss es = tauCloseW S fuel (es.foldl (vstepW S fuel proj keep) ss) := by
  induction es generalizing ss with
  | nil => rfl
  | cons e es ih => simp only [validateW, List.foldl_cons, ih]

theorem validateW_sound [BEq σ] [Hashable σ] {ε : Type} (S : LSys σ α ω) (hw : WF S) (fuel : Nat)
    (proj : ε → ω) (keep : ε → σ → Bool) (s0 : σ) (es : List ε) (s : σ)
    (h : s ∈ validateW S fuel proj keep [s0] es) :
    ∃ as, run S s0 as = some s ∧ obs S as = es.map proj := by
  rw [validateW_eq_foldl] at h
  refine run_of_reach_singleton (reach_foldl S proj [s0] (tauCloseW S fuel) (vstepW S fuel proj keep)
    (fun _ _ => reach_tauCloseW hw fuel) ?_ es [] [s0] (reach_singleton S s0) s h)
  intro done ss e hss t ht
  exact reach_obsStep hw (reach_tauCloseW hw fuel hss) t
    (List.mem_filter.mp (addNew_subset _ _ t ht)).1

end Core.Val
