/-!
# Labelled transition systems with executable step functions

Every concurrent mechanism is modelled as `step : σ → α → Option σ` where **every** source of
nondeterminism (which thread moves, which worker finishes first, when a timer fires, where the
consumer stops, …) is an action label.  A schedule is a list of actions; "for all schedules"
is `∀ as : List α`.
-/
namespace Core

variable {σ α : Type}

/-- run an action list; `none` as soon as an action is not enabled -/
def run (step : σ → α → Option σ) (s : σ) : List α → Option σ
  | [] => some s
  | a :: as => (step s a).bind (fun s' => run step s' as)

@[simp] theorem run_nil (step : σ → α → Option σ) (s : σ) : run step s [] = some s := rfl

theorem run_cons (step : σ → α → Option σ) (s : σ) (a : α) (as : List α) :
    run step s (a :: as) = (step s a).bind (fun s' => run step s' as) := rfl

theorem run_append (step : σ → α → Option σ) (s : σ) (as bs : List α) :
    run step s (as ++ bs) = (run step s as).bind (fun s1 => run step s1 bs) := by
  induction as generalizing s with
  | nil => simp
  | cons a as ih =>
    simp only [List.cons_append, run_cons]
    cases step s a with
    | none => simp
    | some s2 => simp [ih]

/-- inversion of a guarded branch `if g then some x else none` of a step function -/
theorem of_ite_some {p : Prop} [Decidable p] {x y : σ} {Q : σ → Prop}
    (h : (if p then some x else none) = some y) (hq : p → Q x) : Q y := by
  split at h
  · cases h; exact hq ‹_›
  · cases h

def Reach (step : σ → α → Option σ) (s s' : σ) : Prop := ∃ as, run step s as = some s'

theorem Reach.refl (step : σ → α → Option σ) (s : σ) : Reach step s s := ⟨[], rfl⟩

theorem Reach.tail {step : σ → α → Option σ} {s s1 s2 : σ} {a : α}
    (h : Reach step s s1) (hs : step s1 a = some s2) : Reach step s s2 := by
  obtain ⟨as, has⟩ := h
  refine ⟨as ++ [a], ?_⟩
  rw [run_append, has]; simp [run_cons, hs]

theorem Reach.trans {step : σ → α → Option σ} {s s1 s2 : σ}
    (h : Reach step s s1) (h' : Reach step s1 s2) : Reach step s s2 := by
  obtain ⟨as, has⟩ := h
  obtain ⟨bs, hbs⟩ := h'
  exact ⟨as ++ bs, by rw [run_append, has]; exact hbs⟩

theorem invariant_run_ok {step : σ → α → Option σ} {Inv : σ → Prop} {Ok : α → Prop}
    (hstep : ∀ s a s', Inv s → Ok a → step s a = some s' → Inv s') :
    ∀ (as : List α) (s s' : σ), Inv s → (∀ a ∈ as, Ok a) → run step s as = some s' → Inv s' := by
  intro as
  induction as with
  | nil => intro s s' h _ hr; simp at hr; subst hr; exact h
  | cons a as ih =>
    intro s s' h hok hr
    rw [run_cons] at hr
    cases hst : step s a with
    | none => simp [hst] at hr
    | some s1 =>
      simp only [hst, Option.bind_some] at hr
      exact ih s1 s' (hstep s a s1 h (hok a List.mem_cons_self) hst)
        (fun b hb => hok b (List.mem_cons_of_mem _ hb)) hr

theorem invariant_run {step : σ → α → Option σ} {Inv : σ → Prop}
    (hstep : ∀ s a s', Inv s → step s a = some s' → Inv s') :
    ∀ (as : List α) (s s' : σ), Inv s → run step s as = some s' → Inv s' :=
  fun as s s' h hr => invariant_run_ok (Ok := fun _ => True) (fun s a s' hi _ => hstep s a s' hi)
    as s s' h (fun _ _ => trivial) hr

theorem invariant_reach {step : σ → α → Option σ} {Inv : σ → Prop}
    (hstep : ∀ s a s', Inv s → step s a = some s' → Inv s') {s s' : σ}
    (h0 : Inv s) (hr : Reach step s s') : Inv s' := by
  obtain ⟨as, has⟩ := hr
  exact invariant_run hstep as s s' h0 has

/-- A run contains at most `μ s` counted (`p a`) actions; with `p` constantly true this bounds its
    length. -/
theorem countP_le_measure {step : σ → α → Option σ} (μ : σ → Nat) (p : α → Bool)
    (Inv : σ → Prop) (Ok : α → Prop)
    (hinv : ∀ s a s', Inv s → Ok a → step s a = some s' → Inv s')
    (hdec : ∀ s a s', Inv s → Ok a → step s a = some s' → μ s' + (if p a then 1 else 0) ≤ μ s) :
    ∀ (as : List α) (s s' : σ), Inv s → (∀ a ∈ as, Ok a) → run step s as = some s' →
      as.countP p + μ s' ≤ μ s := by
  intro as
  induction as with
  | nil => intro s s' _ _ hr; simp at hr; subst hr; simp
  | cons a as ih =>
    intro s s' hi hok hr
    rw [run_cons] at hr
    cases hst : step s a with
    | none => simp [hst] at hr
    | some s1 =>
      simp only [hst, Option.bind_some] at hr
      have ha := hok a List.mem_cons_self
      have := ih s1 s' (hinv s a s1 hi ha hst) (fun b hb => hok b (List.mem_cons_of_mem _ hb)) hr
      have := hdec s a s1 hi ha hst
      rw [List.countP_cons]
      omega

theorem length_le_measure_inv {step : σ → α → Option σ} (μ : σ → Nat) (Inv : σ → Prop)
    (hinv : ∀ s a s', Inv s → step s a = some s' → Inv s')
    (hdec : ∀ s a s', Inv s → step s a = some s' → μ s' < μ s) :
    ∀ (as : List α) (s s' : σ), Inv s → run step s as = some s' → as.length + μ s' ≤ μ s := by
  intro as s s' hi hr
  have := countP_le_measure μ (fun _ => true) Inv (fun _ => True) (fun s a s' hi _ => hinv s a s' hi)
    (fun s a s' hi _ hs => by have := hdec s a s' hi hs; simp only [if_true]; omega)
    as s s' hi (fun _ _ => trivial) hr
  simpa using this

theorem length_le_measure {step : σ → α → Option σ} (μ : σ → Nat)
    (hdec : ∀ s a s', step s a = some s' → μ s' < μ s) :
    ∀ (as : List α) (s s' : σ), run step s as = some s' → as.length + μ s' ≤ μ s :=
  fun as s s' hr => length_le_measure_inv μ (fun _ => True) (fun _ _ _ _ _ => trivial)
    (fun s a s' _ hs => hdec s a s' hs) as s s' trivial hr

/-- With a measure that every enabled action decreases on the states of an invariant, each of
    these states has a run to one in which nothing is enabled. -/
theorem exists_maximal_run {step : σ → α → Option σ} (μ : σ → Nat) (Inv : σ → Prop)
    (hinv : ∀ s a s', Inv s → step s a = some s' → Inv s')
    (hdec : ∀ s a s', Inv s → step s a = some s' → μ s' < μ s) (s : σ) (hi : Inv s) :
    ∃ as s', run step s as = some s' ∧ Inv s' ∧ ∀ a, step s' a = none := by
  generalize hn : μ s = n
  induction n using Nat.strongRecOn generalizing s with
  | _ n ih =>
    by_cases hmax : ∀ a, step s a = none
    · exact ⟨[], s, rfl, hi, hmax⟩
    · obtain ⟨a, ha⟩ := Classical.not_forall.mp hmax
      obtain ⟨s1, h1⟩ := Option.ne_none_iff_exists'.mp ha
      obtain ⟨as, s', hrun, hm⟩ := ih (μ s1) (hn ▸ hdec s a s1 hi h1) s1 (hinv s a s1 hi h1) rfl
      exact ⟨a :: as, s', by rw [run_cons, h1]; exact hrun, hm⟩

end Core
