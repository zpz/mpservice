import MpsVerif.Core.Sys
/-!
# Observable-trace validator with inferred internal steps

The correspondence check records the *observable* events of a run of the real code and asks
whether that event sequence is the observable projection of a run of the proved model.
`validate` keeps the set of model states compatible with the events so far: before every event
it closes the set under internal (`τ`) actions, then fires the candidate actions for the event.
Soundness (`validate_sound`): every state the validator still holds after the whole trace is
reached by a genuine run of the model whose observable projection is exactly the trace.
The validator may *reject* a legitimate trace if `fuel`/`taus`/`cands` are too small — that is a
correspondence break to be investigated, never a wrong pass.

`dedup` and `keep` (a filter on event payloads such as "the index the consumer received") drop
states; dropping states only makes acceptance harder.
-/
namespace Core.Val

structure LSys (σ α ω : Type) where
  step  : σ → α → Option σ
  label : α → Option ω            -- `none` = internal action
  taus  : σ → List α              -- candidate internal actions
  cands : σ → ω → List α          -- candidate actions explaining an observable event

variable {σ α ω : Type}

def run (S : LSys σ α ω) (s : σ) : List α → Option σ
  | [] => some s
  | a :: as => (S.step s a).bind (fun s' => run S s' as)

def obs (S : LSys σ α ω) (as : List α) : List ω := as.filterMap S.label

structure WF (S : LSys σ α ω) : Prop where
  tau_internal : ∀ s a, a ∈ S.taus s → S.label a = none
  cand_label   : ∀ s e a, a ∈ S.cands s e → S.label a = some e

def dedup [BEq σ] : List σ → List σ
  | [] => []
  | s :: ss => if (dedup ss).elem s then dedup ss else s :: dedup ss

theorem mem_of_mem_dedup [BEq σ] (ss : List σ) : ∀ s ∈ dedup ss, s ∈ ss := by
  induction ss with
  | nil => simp [dedup]
  | cons a ss ih =>
    intro s hs
    simp only [dedup] at hs
    split at hs
    · exact List.mem_cons_of_mem _ (ih s hs)
    · rcases List.mem_cons.mp hs with h | h
      · subst h; exact List.mem_cons_self
      · exact List.mem_cons_of_mem _ (ih s h)

def tauStep (S : LSys σ α ω) (ss : List σ) : List σ :=
  ss.flatMap (fun s => (S.taus s).filterMap (S.step s))

def tauClose [BEq σ] (S : LSys σ α ω) : Nat → List σ → List σ
  | 0, ss => ss
  | k+1, ss => tauClose S k (dedup (ss ++ tauStep S ss))

def obsStep (S : LSys σ α ω) (ss : List σ) (e : ω) : List σ :=
  ss.flatMap (fun s => (S.cands s e).filterMap (S.step s))

/-- One validation step for a recorded event `e : ε`: `proj e` is the observable action label it
    stands for, `keep e s'` filters the successor states on the event's payload (e.g. "the index the
    consumer received"). -/
def vstep [BEq σ] {ε : Type} (S : LSys σ α ω) (fuel : Nat) (proj : ε → ω) (keep : ε → σ → Bool)
    (ss : List σ) (e : ε) : List σ :=
  dedup ((obsStep S (tauClose S fuel ss) (proj e)).filter (keep e))

def validate [BEq σ] {ε : Type} (S : LSys σ α ω) (fuel : Nat) (proj : ε → ω) (keep : ε → σ → Bool) :
    List σ → List ε → List σ
  | ss, [] => tauClose S fuel ss
  | ss, e :: es => validate S fuel proj keep (vstep S fuel proj keep ss e) es

def Reach (S : LSys σ α ω) (ss : List σ) (es : List ω) (s' : σ) : Prop :=
  ∃ s0, s0 ∈ ss ∧ ∃ as, run S s0 as = some s' ∧ obs S as = es

theorem run_append (S : LSys σ α ω) (s : σ) (as bs : List α) (s1 : σ) (h : run S s as = some s1) :
    run S s (as ++ bs) = run S s1 bs := by
  induction as generalizing s with
  | nil => simp [run] at h; subst h; rfl
  | cons a as ih =>
    simp only [run, List.cons_append] at h ⊢
    cases hs : S.step s a with
    | none => simp [hs] at h
    | some s2 => simp [hs] at h ⊢; exact ih s2 h

theorem obs_append (S : LSys σ α ω) (as bs : List α) : obs S (as ++ bs) = obs S as ++ obs S bs := by
  simp [obs]

theorem Reach.step {S : LSys σ α ω} {ss0 : List σ} {es : List ω} {s1 s : σ} {a : α}
    (h : Reach S ss0 es s1) (hstep : S.step s1 a = some s) :
    Reach S ss0 (es ++ (S.label a).toList) s := by
  obtain ⟨s0, hs0, as, hrun, hobs⟩ := h
  refine ⟨s0, hs0, as ++ [a], ?_, ?_⟩
  · rw [run_append S s0 as [a] s1 hrun]; simp [run, hstep]
  · rw [obs_append, hobs]; cases hl : S.label a <;> simp [obs, hl]

theorem reach_tauStep {S : LSys σ α ω} (hw : WF S) {ss0 : List σ} {es : List ω} {ss : List σ}
    (h : ∀ s ∈ ss, Reach S ss0 es s) : ∀ s ∈ tauStep S ss, Reach S ss0 es s := by
  intro s hs
  simp only [tauStep, List.mem_flatMap, List.mem_filterMap] at hs
  obtain ⟨s1, hs1, a, ha, hstep⟩ := hs
  simpa [hw.tau_internal s1 a ha] using (h s1 hs1).step hstep

theorem reach_tauClose [BEq σ] {S : LSys σ α ω} (hw : WF S) {ss0 : List σ} {es : List ω} (k : Nat) :
    ∀ ss, (∀ s ∈ ss, Reach S ss0 es s) → ∀ s ∈ tauClose S k ss, Reach S ss0 es s := by
  induction k with
  | zero => intro ss h s hs; exact h s hs
  | succ k ih =>
    intro ss h s hs
    simp only [tauClose] at hs
    apply ih (dedup (ss ++ tauStep S ss)) _ s hs
    intro s1 hs1
    rcases List.mem_append.mp (mem_of_mem_dedup _ s1 hs1) with h1 | h1
    · exact h s1 h1
    · exact reach_tauStep hw h s1 h1

theorem reach_obsStep {S : LSys σ α ω} (hw : WF S) {ss0 : List σ} {es : List ω} {ss : List σ} {e : ω}
    (h : ∀ s ∈ ss, Reach S ss0 es s) : ∀ s ∈ obsStep S ss e, Reach S ss0 (es ++ [e]) s := by
  intro s hs
  simp only [obsStep, List.mem_flatMap, List.mem_filterMap] at hs
  obtain ⟨s1, hs1, a, ha, hstep⟩ := hs
  simpa [hw.cand_label s1 e a ha] using (h s1 hs1).step hstep

/-- Soundness of every validator of the shape "for each event apply `vs`, at the end apply
    `close`"; `validate` and `validateW` are instances. -/
theorem reach_foldl {ε : Type} (S : LSys σ α ω) (proj : ε → ω) (ss0 : List σ)
    (close : List σ → List σ) (vs : List σ → ε → List σ)
    (hclose : ∀ done ss, (∀ s ∈ ss, Reach S ss0 done s) → ∀ s ∈ close ss, Reach S ss0 done s)
    (hvs : ∀ done ss e, (∀ s ∈ ss, Reach S ss0 done s) →
      ∀ s ∈ vs ss e, Reach S ss0 (done ++ [proj e]) s) :
    ∀ (es : List ε) (done : List ω) (ss : List σ), (∀ s ∈ ss, Reach S ss0 done s) →
      ∀ s ∈ close (es.foldl vs ss), Reach S ss0 (done ++ es.map proj) s := by
  intro es
  induction es with
  | nil => intro done ss h; simpa using hclose done ss h
  | cons e es ih =>
    intro done ss h
    simpa using ih (done ++ [proj e]) (vs ss e) (hvs done ss e h)

theorem run_of_reach_singleton {S : LSys σ α ω} {s0 s : σ} {es : List ω}
    (h : Reach S [s0] es s) : ∃ as, run S s0 as = some s ∧ obs S as = es := by
  obtain ⟨t, ht, as, hrun, hobs⟩ := h
  simp at ht; subst ht
  exact ⟨as, hrun, hobs⟩

theorem reach_singleton (S : LSys σ α ω) (s0 : σ) : ∀ t ∈ [s0], Reach S [s0] [] t := by
  intro t ht
  exact ⟨t, ht, [], rfl, rfl⟩

/-- The drivers run this fold one event at a time (`vstep` per event, `tauClose` at the end). -/
theorem validate_eq_foldl [BEq σ] {ε : Type} (S : LSys σ α ω) (fuel : Nat) (proj : ε → ω)
    (keep : ε → σ → Bool) (ss : List σ) (es : List ε) :
    validate S fuel proj keep ss es = tauClose S fuel (es.foldl (vstep S fuel proj keep) ss) := by
  induction es generalizing ss with
  | nil => rfl
  | cons e es ih => simp only [validate, List.foldl_cons, ih]

theorem validate_sound [BEq σ] {ε : Type} (S : LSys σ α ω) (hw : WF S) (fuel : Nat)
    (proj : ε → ω) (keep : ε → σ → Bool) (s0 : σ) (es : List ε) (s : σ)
    (h : s ∈ validate S fuel proj keep [s0] es) :
    ∃ as, run S s0 as = some s ∧ obs S as = es.map proj := by
  rw [validate_eq_foldl] at h
  refine run_of_reach_singleton (reach_foldl S proj [s0] (tauClose S fuel) (vstep S fuel proj keep)
    (fun _ => reach_tauClose hw fuel) ?_ es [] [s0] (reach_singleton S s0) s h)
  intro done ss e hss t ht
  exact reach_obsStep hw (reach_tauClose hw fuel ss hss) t
    (List.mem_filter.mp (mem_of_mem_dedup _ t ht)).1

theorem run_eq (S : LSys σ α ω) (s : σ) (as : List α) : run S s as = Core.run S.step s as := by
  induction as generalizing s with
  | nil => rfl
  | cons a as ih => simp only [run, Core.run]; cases S.step s a <;> simp [ih]

end Core.Val
